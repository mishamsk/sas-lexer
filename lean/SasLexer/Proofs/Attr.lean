import Lean
/-- simp set that computes a field of the state after a method of `Lexer` (`Proofs/Kernel/Fields.lean`) -/
register_simp_attr fld
/-- simp set for symbolic evaluation of `awp` (the scanning discipline) -/
register_simp_attr awp_simp
