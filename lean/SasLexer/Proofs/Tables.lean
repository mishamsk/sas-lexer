import SasLexer.Lex.Main
import SasLexer.Spec.C10
import SasLexer.Spec.Pairs
/-!
# Table theorems (finite tables of the model, enumerated completely by the kernel)

These are statements about the decision tables of the hand-modelled control logic and about the
generated tables (`Gen/*`): the quantifier is a finite table that `decide` enumerates
completely, so each is a proof, not a sample.  The separator rule (`needsMacroSep_*`) is the exception: its
tables are read off the definition, which consults the previous token only through one four-element list.
Each docstring names the properties the table serves; `(T)` marks a table theorem, one of the three kinds of DESIGN.md §2.
-/
namespace SasLexer

/-- state after `%kw` was recognised at the start of an otherwise empty source:
runs `dispatch_macro_call_or_stat` on a fresh lexer and returns the mode stack (top first) -/
def modesAfterKeyword (cfg : Cfg) (ty : TokenType) : List Mode :=
  (Prog.run cfg (dispatchMacroCallOrStat cfg ty false) (Lexer.new cfg [])).2.modesR

/-- the token emitted for the keyword itself (last token) -/
def tokenAfterKeyword (cfg : Cfg) (ty : TokenType) : Option (TokenType × Channel) :=
  (Prog.run cfg (dispatchMacroCallOrStat cfg ty false) (Lexer.new cfg [])).2.toksR.head?.map fun t => (t.ty, t.chan)

def relCfg : Cfg := ⟨false, false, false⟩
def sepCfg : Cfg := ⟨false, true, false⟩

/-- C10/C14 (T): every argument-taking built-in pre-loads, on top of the stack, optional
whitespace/comments and then the expectation of `(` on the keyword's own channel -/
theorem builtins_expect_lparen :
    Spec.C10.argTakingBuiltins.all (fun ty =>
      match tokenAfterKeyword relCfg ty, modesAfterKeyword relCfg ty with
      | some (ty', ch), .wsOrCStyleCommentOnly :: .expectSymbol .LPAREN ch' :: _ => ty' == ty && ch == ch'
      | _, _ => false) = true := by decide +kernel

theorem builtins_expect_lparen_sep :
    Spec.C10.argTakingBuiltins.all (fun ty =>
      match tokenAfterKeyword sepCfg ty, modesAfterKeyword sepCfg ty with
      | some (ty', ch), .wsOrCStyleCommentOnly :: .expectSymbol .LPAREN ch' :: _ => ty' == ty && ch == ch'
      | _, _ => false) = true := by decide +kernel

/-- does the pre-loaded stack contain, in this order from the top, the given expectations? -/
def expectsInOrder : List Mode → List Mode → Bool
  | _, [] => true
  | [], _ :: _ => false
  | m :: ms, e :: es => if m == e then expectsInOrder ms es else expectsInOrder ms (e :: es)

/-- C14 (T): the mandatory delimiters of each construct are pre-loaded as expectations
(`=` of `%let`; `(` … `)` then `;` of `%do %while/%until`; `,` of `%scan/%substr` families;
`/` of `%copy`; `;` after `%end`, `%return`) -/
theorem preload_has_expectations :
    expectsInOrder (modesAfterKeyword relCfg .KwmLet) [.expectSymbol .ASSIGN .DEFAULT, .expectSemiOrEOF] = true ∧
    expectsInOrder (modesAfterKeyword relCfg .KwmWhile)
      [.expectSymbol .LPAREN .DEFAULT, .expectSymbol .RPAREN .DEFAULT, .expectSemiOrEOF] = true ∧
    expectsInOrder (modesAfterKeyword relCfg .KwmUntil)
      [.expectSymbol .LPAREN .DEFAULT, .expectSymbol .RPAREN .DEFAULT, .expectSemiOrEOF] = true ∧
    [TokenType.KwmScan, .KwmQScan, .KwmKScan, .KwmQKScan, .KwmSubstr, .KwmQSubstr, .KwmKSubstr, .KwmQKSubstr].all
      (fun ty => expectsInOrder (modesAfterKeyword relCfg ty)
        [.expectSymbol .LPAREN .DEFAULT, .expectSymbol .COMMA .DEFAULT, .expectSymbol .RPAREN .DEFAULT]) = true ∧
    expectsInOrder (modesAfterKeyword relCfg .KwmCopy) [.expectSymbol .FSLASH .DEFAULT, .expectSemiOrEOF] = true ∧
    expectsInOrder (modesAfterKeyword relCfg .KwmEnd) [.expectSemiOrEOF] = true ∧
    expectsInOrder (modesAfterKeyword relCfg .KwmReturn) [.expectSemiOrEOF] = true := by
  decide +kernel

theorem needsMacroSep_none (ty : TokenType) : needsMacroSep none ty = false := rfl

/-- the previous token enters the separator decision only through its membership in the four-element list -/
theorem needsMacroSep_some (p ty : TokenType) :
    needsMacroSep (some p) ty =
      (![TokenType.SEMI, .MacroLabel, .KwmThen, .KwmElse].contains p && Spec.sepFollowSet.contains ty) := rfl

theorem needsMacroSep_after_stop {p : TokenType} (hp : p ∈ [TokenType.SEMI, .MacroLabel, .KwmThen, .KwmElse])
    (ty : TokenType) : needsMacroSep (some p) ty = false := by
  rw [needsMacroSep_some, List.contains_iff_mem.2 hp]
  rfl

theorem needsMacroSep_identifier (ty : TokenType) :
    needsMacroSep (some .Identifier) ty = Spec.sepFollowSet.contains ty := rfl

/-- C18 (T): the separator decision of the model is exactly the placement rule of the
specification: a separator can only precede a type of `sepFollowSet`, and never follows
`;`, a label, `%then`, `%else` or nothing -/
theorem needsMacroSep_table :
    TokenType.all.all (fun ty =>
      (needsMacroSep (some .Identifier) ty == Spec.sepFollowSet.contains ty)
      && (needsMacroSep none ty == false)
      && [TokenType.SEMI, .MacroLabel, .KwmThen, .KwmElse].all (fun p => needsMacroSep (some p) ty == false)) = true := by
  simp only [List.all_eq_true, Bool.and_eq_true, beq_iff_eq]
  intro ty _
  exact ⟨⟨needsMacroSep_identifier ty, needsMacroSep_none ty⟩, fun p hp => needsMacroSep_after_stop hp ty⟩

theorem needsMacroSep_prev_irrelevant :
    TokenType.all.all (fun p => TokenType.all.all (fun ty =>
      [TokenType.SEMI, .MacroLabel, .KwmThen, .KwmElse].contains p ||
        needsMacroSep (some p) ty == needsMacroSep (some .Identifier) ty)) = true := by
  simp only [List.all_eq_true, Bool.or_eq_true, beq_iff_eq]
  intro p _ ty _
  cases h : [TokenType.SEMI, .MacroLabel, .KwmThen, .KwmElse].contains p
  · exact Or.inr (by rw [needsMacroSep_some, h]; rfl)
  · exact Or.inl rfl

/-- C16 (T): every keyword table key is already upper case ASCII, so the lookup after
ASCII upper-casing is a case-insensitive membership test -/
theorem keywords_upper :
    (TokenType.KEYWORDS.all fun (k, _) => k.toList.all (fun c => toUpperAscii c == c && isAscii c)) = true ∧
    (TokenType.MKEYWORDS.all fun (k, _) => k.toList.all (fun c => toUpperAscii c == c && isAscii c)) = true := by
  decide +kernel

theorem upperStr_case_invariant (a b : List Char) (h : a.map toUpperAscii = b.map toUpperAscii) :
    upperStr a = upperStr b := by
  unfold upperStr; rw [h]

/-- C16 (T): the ASCII character classes the control logic branches on are closed under
ASCII case change (checked for all 128 ASCII code points) -/
theorem ascii_classes_case_closed :
    (List.range 128).all (fun n =>
      let c := Char.ofNat n
      let u := toUpperAscii c
      isAsciiHexDigit u == isAsciiHexDigit c && isSasNameStart u == isSasNameStart c
        && isSasNameContinue u == isSasNameContinue c && isAsciiDigit u == isAsciiDigit c
        && isIdentContinue u == isIdentContinue c && isWhitespace u == isWhitespace c
        && (!isAsciiHexDigit c || hexDigitVal u == hexDigitVal c)) = true := by
  decide +kernel

/-- C16 (T): the mnemonic recogniser gives the same answer on every ASCII-case variant of every
two- and three-letter mnemonic spelling followed by a delimiter -/
theorem mnemonics_case_closed :
    (["eq", "ne", "lt", "le", "gt", "ge", "in", "or", "and", "not"].all fun w =>
      let cs := w.toList
      let variants := cs.foldr (fun c acc => acc.flatMap fun t => [c :: t, toUpperAscii c :: t]) [[]]
      variants.all fun v =>
        isMacroEvalMnemonic (v ++ [' ']) == isMacroEvalMnemonic (cs ++ [' '])
          && (isMacroEvalMnemonic (cs ++ [' '])).1.isSome) = true := by
  decide +kernel

/-- C01/C06 (T): the packed flag bytes round-trip through their accessors -/
theorem evalFlags_roundtrip :
    ([NumericMode.integer, .float].all fun nm => [NextArgMode.none, .singleEvalExpr, .evalExpr, .macroArg].all fun na =>
      [false, true].all fun a => [false, true].all fun b => [false, true].all fun c =>
        let f := EvalFlags.new nm na a b c
        EvalFlags.numericMode f == nm && EvalFlags.followArgMode f == na && EvalFlags.terminateOnStat f == a
          && EvalFlags.terminateOnSemi f == b && EvalFlags.parensMaskComma f == c
          && EvalFlags.terminateOnComma f == (na != .none) && decide (f < 256)) = true := by
  decide +kernel

theorem argFlags_roundtrip :
    ([ArgContext.builtInMacro, .macroCall, .macroDef].all fun cx => [false, true].all fun a => [false, true].all fun b =>
      let f := ArgFlags.new cx a b
      ArgFlags.context f == cx && ArgFlags.populateNextArgStack f == a && ArgFlags.terminateOnComma f == b
        && decide (f < 256)) = true := by
  decide +kernel

end SasLexer
