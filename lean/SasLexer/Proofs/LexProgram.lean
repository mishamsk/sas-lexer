import SasLexer.Lex.Main
import SasLexer.Proofs.Kernel.Run
/-!
# How a run ends: `into_detached`, `lexProgram`, `modelDump`

`lexProgram` runs the main loop, then (unless the loop detector fired) finalisation, then detaches the buffer of
the state it has reached, `lastState`; when one of the two runs panicked its buffer is empty.  The property files
prove an invariant of `lastState` (`lastState_ind`: it is the state after one or after both runs) and read
the result of `lexProgram` off it with the lemmas below, instead of unfolding `lexProgram`.
-/
namespace SasLexer

theorem intoDetached_errs (cfg : Cfg) (L : Lexer) : (L.intoDetached cfg).2.errsR = L.errsR := by
  unfold Lexer.intoDetached
  dsimp only
  split <;> split <;> (try split) <;> rfl

/-- the detached token list: the work buffer's, followed by an `EOF` at the end of the source unless its last
token is one already -/
theorem intoDetached_toks (cfg : Cfg) (L : Lexer) :
    ∃ k, (L.intoDetached cfg).1.toks =
      if L.toksR.head?.map (·.ty) = some .EOF then L.toksR.reverse
      else L.toksR.reverse ++ [⟨.DEFAULT, .EOF, L.srcLen, L.src.length, k, .none⟩] := by
  unfold Lexer.intoDetached
  generalize hL1 : (if L.linesR.isEmpty = true then (L.bufAddLine cfg 0 0).2 else L) = L1
  have e : L1.toksR = L.toksR ∧ L1.srcLen = L.srcLen ∧ L1.src = L.src := by
    rw [← hL1]; split <;> exact ⟨rfl, rfl, rfl⟩
  refine ⟨L1.linesR.length - 1, ?_⟩
  rw [← e.1, ← e.2.1, ← e.2.2]
  dsimp only
  cases hl : L1.toksR with
  | nil => simp
  | cons t ts => by_cases h : t.ty = .EOF <;> simp [h, hl]

/-- a finalisation that returns: the loop over the mode stack returned, in a state `L2`, and the end state is `L2`
with the `EOF` token -/
theorem finalizeLexing_run {cfg : Cfg} {L : Lexer} (h : (Prog.run cfg (finalizeLexing cfg) L).1 = some ()) :
    ∃ L2, Prog.run cfg (finalizeLoop cfg (L.modesR.length * 2 + 2)) L = (some (), L2) ∧
      Prog.run cfg (finalizeLexing cfg) L = (some (), (step cfg .emitEofAtCursor L2).2) ∧
      (step cfg .emitEofAtCursor L2).2.panicked = none := by
  have hshape : finalizeLexing cfg = (Prog.perform .modeDepth >>= fun d =>
      (finalizeLoop cfg (d * 2 + 2) >>= fun _ => Prog.perform .emitEofAtCursor)) := rfl
  rw [hshape] at h ⊢
  obtain ⟨d, hd, e1⟩ := run_bind_some h
  obtain ⟨hd', -⟩ := run_perform_some hd
  rw [hd'] at hd
  obtain rfl : L.modesR.length = d := Option.some.inj hd
  rw [e1, hd'] at h ⊢
  obtain ⟨u, hu, e2⟩ := run_bind_some h
  rw [e2] at h ⊢
  obtain ⟨e3, hp⟩ := run_perform_some h
  exact ⟨_, Prod.ext hu rfl, e3, hp⟩

/-- a finalisation from an unpanicked state that ends unpanicked: the loop over the mode stack returned, in an unpanicked
state `L2` with the same source, and the end state is `L2` with the `EOF` token -/
theorem finalizeLexing_ok {cfg : Cfg} {L : Lexer} (hp : L.panicked = none)
    (hp2 : (Prog.run cfg (finalizeLexing cfg) L).2.panicked = none) :
    ∃ L2, Prog.run cfg (finalizeLoop cfg (L.modesR.length * 2 + 2)) L = (some (), L2) ∧ L2.panicked = none ∧
      L2.src = L.src ∧ (Prog.run cfg (finalizeLexing cfg) L).2 = (step cfg .emitEofAtCursor L2).2 := by
  obtain ⟨⟨⟩, ha⟩ := Option.isSome_iff_exists.1 (run_isSome cfg _ L hp2)
  obtain ⟨L2, hR, e, -⟩ := finalizeLexing_run ha
  have h := run_some_panicked cfg _ L () hp (by rw [hR])
  have hs := run_src cfg (finalizeLoop cfg (L.modesR.length * 2 + 2)) L
  rw [hR] at h hs
  exact ⟨L2, hR, h, hs, by rw [e]⟩

def mainRun (cfg : Cfg) (s : List Char) : Option (LoopEnd × Nat) × Lexer :=
  Prog.run cfg (mainLoop cfg (budgetMul * (Lexer.new cfg s).srcLen + 64) 0 ((Lexer.new cfg s).srcLen, [.default]))
    (Lexer.new cfg s)

/-- the state whose buffer `lexProgram` detaches (the state it stops in, when a run panicked) -/
def lastState (cfg : Cfg) (s : List Char) : Lexer :=
  match mainRun cfg s with
  | (some (e, _), L1) => if e == .detected then L1 else (Prog.run cfg (finalizeLexing cfg) L1).2
  | (none, L) => L

/-- what holds where the main loop stopped, and after finalisation if the main loop returned, holds of `lastState` -/
theorem lastState_ind {cfg : Cfg} {s : List Char} {I : Lexer → Prop} (h1 : I (mainRun cfg s).2)
    (h2 : (mainRun cfg s).1.isSome = true → I (Prog.run cfg (finalizeLexing cfg) (mainRun cfg s).2).2) :
    I (lastState cfg s) := by
  unfold lastState
  generalize mainRun cfg s = R at h1 h2
  obtain ⟨_ | ⟨e, n⟩, L1⟩ := R
  · exact h1
  · dsimp only
    split
    · exact h1
    · exact h2 rfl

/-- `lexProgram` in terms of `mainRun` and `lastState` -/
theorem lexProgram_eq (cfg : Cfg) (s : List Char) :
    lexProgram cfg s =
      match mainRun cfg s with
      | (none, L) => { ending := none, iters := 0, snap := none, final := L, buf := ⟨[], [], []⟩ }
      | (some (e, n), L1) =>
        let snap := if e == .detected then none else some (snapshotOf L1)
        match (lastState cfg s).panicked with
        | some _ => { ending := none, iters := n, snap := snap, final := lastState cfg s, buf := ⟨[], [], []⟩ }
        | none => { ending := some e, iters := n, snap := snap, final := ((lastState cfg s).intoDetached cfg).2,
                    buf := ((lastState cfg s).intoDetached cfg).1 } := by
  unfold lexProgram lastState
  show (match mainRun cfg s with | (none, L) => _ | (some (e, n), L1) => _) = _
  generalize mainRun cfg s = R
  obtain ⟨_ | ⟨e, n⟩, L1⟩ := R
  · rfl
  · dsimp only
    cases e == LoopEnd.detected <;> rfl

theorem lexProgram_final_errs (cfg : Cfg) (s : List Char) :
    (lexProgram cfg s).final.errsR = (lastState cfg s).errsR := by
  rw [lexProgram_eq]
  split
  · rename_i h; unfold lastState; rw [h]
  · dsimp only; split
    · rfl
    · exact intoDetached_errs cfg _

/-- either a run panicked and the buffer is empty, or both runs returned and the buffer is `lastState`'s -/
theorem lexProgram_cases (cfg : Cfg) (s : List Char) :
    ((lexProgram cfg s).ending = none ∧ (lexProgram cfg s).buf = ⟨[], [], []⟩) ∨
    ((lexProgram cfg s).ending ≠ none ∧ (mainRun cfg s).1.isSome = true ∧ (lastState cfg s).panicked = none ∧
      (lexProgram cfg s).buf = ((lastState cfg s).intoDetached cfg).1) := by
  rw [lexProgram_eq]
  split
  · exact Or.inl ⟨rfl, rfl⟩
  · rename_i h
    dsimp only; split
    · exact Or.inl ⟨rfl, rfl⟩
    · rename_i hp; exact Or.inr ⟨by simp, by rw [h]; rfl, hp, rfl⟩

/-- a run that returns at end of input has finalised: what the result consists of -/
theorem lexProgram_eof {cfg : Cfg} {s : List Char} (h : (lexProgram cfg s).ending = some .eof) :
    (∃ n, (mainRun cfg s).1 = some (.eof, n)) ∧
    lastState cfg s = (Prog.run cfg (finalizeLexing cfg) (mainRun cfg s).2).2 ∧ (lastState cfg s).panicked = none ∧
    (lexProgram cfg s).buf = ((lastState cfg s).intoDetached cfg).1 ∧
    (lexProgram cfg s).final = ((lastState cfg s).intoDetached cfg).2 ∧
    (lexProgram cfg s).snap = some (snapshotOf (mainRun cfg s).2) := by
  revert h
  rw [lexProgram_eq]
  rcases hR : mainRun cfg s with ⟨_ | ⟨e, n⟩, L1⟩
  · intro h; cases h
  · cases (lastState cfg s).panicked with
    | some m => intro h; cases h
    | none =>
      intro h
      injection h with h
      subst h
      exact ⟨⟨n, rfl⟩, by unfold lastState; rw [hR]; rfl, rfl, rfl, rfl, rfl⟩

theorem lexProgram_detected {cfg : Cfg} {s : List Char} (h : (lexProgram cfg s).ending = some .detected) :
    (lexProgram cfg s).snap = none := by
  rw [lexProgram_eq] at h ⊢
  split at h
  · cases h
  · dsimp only at h ⊢
    split at h
    · cases h
    · injection h with h
      subst h
      rfl

theorem modelDump_of_ending {cfg : Cfg} {s : List Char} {e : LoopEnd} (hlen : utf8Len s < two32)
    (he : (lexProgram cfg s).ending = some e) :
    modelDump cfg s = dumpOfBuf cfg s (lexProgram cfg s).buf (lexProgram cfg s).final.errsR.reverse
      (if e == .budget then .budget else .ok) (lexProgram cfg s).snap (lexProgram cfg s).iters := by
  unfold modelDump
  rw [if_neg (Nat.not_le_of_lt hlen)]
  simp only [he]

/-- the dump of the model is empty, or the dump of the buffer of a run that returned -/
theorem modelDump_cases (cfg : Cfg) (s : List Char) :
    (∃ o, modelDump cfg s = emptyDump o) ∨
    ∃ e, (lexProgram cfg s).ending = some e ∧
      modelDump cfg s = dumpOfBuf cfg s (lexProgram cfg s).buf (lexProgram cfg s).final.errsR.reverse
        (if e == .budget then .budget else .ok) (lexProgram cfg s).snap (lexProgram cfg s).iters := by
  unfold modelDump
  split
  · exact Or.inl ⟨_, rfl⟩
  · dsimp only
    split
    · split <;> exact Or.inl ⟨_, rfl⟩
    · rename_i e he; exact Or.inr ⟨e, he, rfl⟩

end SasLexer
