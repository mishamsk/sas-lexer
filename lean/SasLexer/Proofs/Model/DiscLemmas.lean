import SasLexer.Lex.Common
/-! # Facts about the pure helpers of the model that the scanning discipline needs

What a scanner consumes is described by `Span P l n suf`: `l` is `n` characters satisfying `P`
followed by `suf`.  Spans compose (`Span.trans`), so the prefix a parser covers is read off its
definition piece by piece; `Span.allTake` gives `AllTake P l n`, the form in which `advanceBy n`
needs it (with `P '\n' = false`, `AllTake.no_nl`: no line feed is skipped).
-/
namespace SasLexer

theorem isXidContinue_nl : isXidContinue '\n' = false := by decide +kernel
theorem isIdentContinue_nl : isIdentContinue '\n' = false := by decide +kernel
theorem isSasNameContinue_nl : isSasNameContinue '\n' = false := by decide
theorem isUnicodeNameStart_nl : isUnicodeNameStart '\n' = false := by decide +kernel
theorem isAsciiDigit_nl : isAsciiDigit '\n' = false := by decide +kernel
theorem isAsciiHexDigit_nl : isAsciiHexDigit '\n' = false := by decide +kernel

def AllTake (P : Char → Bool) (l : List Char) (n : Nat) : Prop := ∀ c ∈ l.take n, P c = true

namespace AllTake
variable {P : Char → Bool} {l : List Char} {n m : Nat}

theorem zero : AllTake P l 0 := by simp [AllTake]

theorem mono (h : AllTake P l n) (hm : m ≤ n) : AllTake P l m := fun c hc =>
  h c (List.take_subset_take_left l hm hc)

end AllTake

theorem AllTake.no_nl {P : Char → Bool} (hP : P '\n' = false) {l : List Char} {n : Nat} (h : AllTake P l n) :
    ∀ c ∈ l.take n, c ≠ '\n' := by
  rintro c hc rfl
  exact absurd (h _ hc) (by simp [hP])

/-- `l` is `n` characters satisfying `P`, followed by `suf` -/
def Span (P : Char → Bool) (l : List Char) (n : Nat) (suf : List Char) : Prop :=
  ∃ pre, l = pre ++ suf ∧ pre.length = n ∧ ∀ c ∈ pre, P c = true

namespace Span
variable {P p : Char → Bool} {l m suf : List Char} {n k : Nat} {a : Char}

theorem refl : Span P l 0 l := ⟨[], rfl, rfl, by simp⟩

theorem trans (h₁ : Span P l n m) (h₂ : Span P m k suf) : Span P l (n + k) suf := by
  obtain ⟨p₁, rfl, rfl, a₁⟩ := h₁
  obtain ⟨p₂, rfl, rfl, a₂⟩ := h₂
  exact ⟨p₁ ++ p₂, by simp, by simp, by simpa [or_imp, forall_and] using ⟨a₁, a₂⟩⟩

theorem cons (ha : P a = true) : Span P (a :: l) 1 l := ⟨[a], rfl, rfl, by simpa using ha⟩

theorem takeWhile (hp : ∀ c, p c = true → P c = true) :
    Span P l (l.takeWhile p).length (l.dropWhile p) :=
  ⟨l.takeWhile p, List.takeWhile_append_dropWhile.symm, rfl,
    fun c hc => hp c (List.all_eq_true.1 List.all_takeWhile c hc)⟩

theorem length (h : Span P l n suf) : l.length = n + suf.length := by
  obtain ⟨pre, rfl, rfl, _⟩ := h; simp

theorem allTake (h : Span P l n suf) : AllTake P l n := by
  obtain ⟨pre, rfl, rfl, a⟩ := h
  simpa [AllTake] using a

end Span

theorem drop_takeWhile_length (p : Char → Bool) (l : List Char) :
    l.drop (l.takeWhile p).length = l.dropWhile p := by
  conv => lhs; arg 2; rw [← List.takeWhile_append_dropWhile (p := p) (l := l)]
  exact List.drop_left

theorem take_takeWhile_len (p : Char → Bool) (s : List Char) {c : Char} (h : c ∈ s.take (s.takeWhile p).length) :
    p c = true :=
  (Span.takeWhile fun _ => id).allTake c h

/-! ### `isMacroAmp`, `resolveOps` -/

theorem isMacroAmp_nil (n : Nat) : isMacroAmp [] n = (false, n) := rfl
theorem isMacroAmp_amp (r : List Char) (n : Nat) : isMacroAmp ('&' :: r) n = isMacroAmp r (n + 1) := rfl
theorem isMacroAmp_other (c : Char) (r : List Char) (n : Nat) (hc : c ≠ '&') :
    isMacroAmp (c :: r) n = (isUnicodeNameStart c, n) := by
  unfold isMacroAmp
  split
  · rename_i heq; exact absurd (List.cons.inj heq).1 hc
  · rename_i heq; rw [(List.cons.inj heq).1]
  · rename_i heq; cases heq

theorem isMacroAmp_take (r : List Char) : ∀ (n : Nat) {b : Bool} {m : Nat}, isMacroAmp r n = (b, m) →
    n ≤ m ∧ ∀ c ∈ r.take (m - n), c = '&' := by
  induction r with
  | nil => intro n b m h; cases h; simp
  | cons c r ih =>
    intro n b m h
    by_cases hc : c = '&'
    · subst hc
      obtain ⟨h1, h2⟩ := ih (n + 1) h
      refine ⟨by omega, ?_⟩
      rw [show m - n = (m - (n + 1)) + 1 by omega, List.take_succ_cons]
      simpa using h2
    · rw [isMacroAmp_other c r n hc] at h
      obtain ⟨-, rfl⟩ := Prod.mk.inj h
      simp

theorem isMacroAmp_le : ∀ (r : List Char) (k : Nat) {b : Bool} {m : Nat}, isMacroAmp r k = (b, m) → m ≤ k + r.length
  | [], k, _, _, h => by cases h; exact Nat.le_refl k
  | c :: t, k, _, _, h => by
    by_cases hc : c = '&'
    · subst hc; have := isMacroAmp_le t (k + 1) h; simp only [List.length_cons]; omega
    · rw [isMacroAmp_other c t k hc, Prod.mk.injEq] at h; omega

def sumPow (ks : List Nat) : Nat := (ks.map (2 ^ ·)).sum

theorem sumPow_bits (n : Nat) : ∀ k, sumPow (((List.range k).reverse).filter fun i => (n / 2 ^ i) % 2 == 1) = n % 2 ^ k
  | 0 => by simp [sumPow, Nat.mod_one]
  | k + 1 => by
    have ih := sumPow_bits n k
    rw [List.range_succ, List.reverse_append, List.reverse_singleton, List.singleton_append]
    rw [Nat.mod_pow_succ]
    have h2 : (n / 2 ^ k) % 2 = 0 ∨ (n / 2 ^ k) % 2 = 1 := by omega
    rcases h2 with h2 | h2
    · rw [List.filter_cons_of_neg (by simp [h2]), ih, h2]; omega
    · rw [List.filter_cons_of_pos (by simp [h2])]
      simp only [sumPow, List.map_cons, List.sum_cons] at ih ⊢
      rw [ih, h2]; omega

theorem sumPow_resolveOps_le (n : Nat) : sumPow (resolveOps n) ≤ n := by
  unfold resolveOps
  rw [sumPow_bits n 32]
  exact Nat.mod_le _ _

/-- chars of a decimal / hex numeric literal -/
def NumCh (c : Char) : Bool :=
  isAsciiHexDigit c || c == '.' || c == '+' || c == '-'

theorem NumCh_nl : NumCh '\n' = false := by decide

theorem hex_NumCh {c : Char} (h : isAsciiHexDigit c = true) : NumCh c = true := by
  simp [NumCh, h]
theorem digit_NumCh {c : Char} (h : isAsciiDigit c = true) : NumCh c = true :=
  hex_NumCh (by simp [isAsciiHexDigit, h])

theorem tryParseInteger_ok {s : List Char} {r : NumRes} (h : tryParseInteger s = some r) :
    AllTake NumCh s r.len ∧ r.ty ≠ .EOF := by
  unfold tryParseInteger at h
  extract_lets ds v at h
  split at h
  · cases h
  · split at h <;> cases h
    exact ⟨(Span.takeWhile fun _ => digit_NumCh).allTake, by simp⟩

theorem tryParseHexInteger_ok {s : List Char} {r : NumRes} (h : tryParseHexInteger s = some r) :
    AllTake NumCh s r.len ∧ r.ty ≠ .EOF := by
  unfold tryParseHexInteger at h
  extract_lets ds v at h
  split at h
  · cases h
  · split at h <;> cases h <;> exact ⟨(Span.takeWhile fun _ => hex_NumCh).allTake, by simp⟩

/-- number of characters a parse covers -/
def FloatParse.len : FloatParse → Nat
  | .ok _ n _ | .emptyExponent n => n
  | .fail => 0

/-- the mantissa is digits, optionally `.` and digits; the exponent `e`/`E`, optionally a sign, digits -/
theorem parseFloatPartial_allTake (s : List Char) : AllTake NumCh s (parseFloatPartial s).len := by
  have digits (l : List Char) :
      Span NumCh l (l.takeWhile isAsciiDigit).length (l.drop (l.takeWhile isAsciiDigit).length) :=
    drop_takeWhile_length .. ▸ Span.takeWhile fun _ => digit_NumCh
  generalize hp : parseFloatPartial s = p
  unfold parseFloatPartial at hp
  extract_lets ip r1 at hp
  have hi : Span NumCh s ip.length r1 := digits s
  clear_value r1
  split at hp
  rename_i fp hasDot r2 heq
  split at hp
  · subst hp; exact AllTake.zero
  extract_lets mlen mant mk at hp
  -- the conversion `mk` plays no part; with its value in `hp` every `split` below is slow
  clear_value mk mant
  have hm : Span NumCh s mlen r2 := by
    split at heq <;> cases heq
    · exact hi.trans ((Span.cons (by decide)).trans (digits _))
    · exact hi.trans .refl
  split at hp
  · rename_i c t
    split at hp
    · rename_i hc
      split at hp
      rename_i neg slen t' heq
      have hs : Span NumCh t slen t' := by
        split at heq <;> cases heq
        · exact .cons (by decide)
        · exact .cons (by decide)
        · exact .refl
      extract_lets ed at hp
      have hx : AllTake NumCh s (mlen + 1 + slen + ed.length) := by
        refine (((hm.trans (.cons ?_)).trans hs).trans (digits t')).allTake
        simp only [Bool.or_eq_true, beq_iff_eq] at hc
        rcases hc with rfl | rfl <;> decide
      split at hp <;> subst hp
      · exact hx.mono (Nat.le_add_right _ _)
      · exact hx
    · subst hp; exact hm.allTake
  · subst hp; exact hm.allTake

theorem parseFloatPartial_len (s : List Char) :
    (∀ bits len e, parseFloatPartial s = .ok bits len e → AllTake NumCh s len) ∧
    (∀ len, parseFloatPartial s = .emptyExponent len → AllTake NumCh s len) :=
  ⟨fun _ _ _ h => by have := parseFloatPartial_allTake s; rwa [h] at this,
   fun _ h => by have := parseFloatPartial_allTake s; rwa [h] at this⟩

theorem tryParseFloat_ok {s : List Char} {r : NumRes} (h : tryParseFloat s = some r) :
    AllTake NumCh s r.len ∧ r.ty ≠ .EOF := by
  have hl := parseFloatPartial_allTake s
  unfold tryParseFloat at h
  split at h
  · rename_i hp
    rw [hp] at hl
    split at h <;> cases h
    exact ⟨hl, by split <;> simp⟩
  · rename_i hp
    rw [hp] at hl
    split at h <;> cases h
    exact ⟨hl, by simp⟩
  · cases h

/-- `tryParseDecimal` chooses between the results of the two parsers -/
theorem tryParseDecimal_cases {s : List Char} {a b : Bool} {r : NumRes} (h : tryParseDecimal s a b = some r) :
    tryParseInteger s = some r ∨ tryParseFloat s = some r := by
  unfold tryParseDecimal at h
  cases a <;> cases b <;> simp only [Bool.false_eq_true, if_false, if_true] at h <;>
    (repeat' split at h) <;> simp_all

theorem tryParseDecimal_ok {s : List Char} {a b : Bool} {r : NumRes} (h : tryParseDecimal s a b = some r) :
    AllTake NumCh s r.len ∧ r.ty ≠ .EOF :=
  (tryParseDecimal_cases h).elim tryParseInteger_ok tryParseFloat_ok

theorem tryParseDecimal_ty {s : List Char} {a b : Bool} {r : NumRes} (h : tryParseDecimal s a b = some r) :
    r.ty ≠ .EOF := (tryParseDecimal_ok h).2

theorem tryParseHexInteger_ty {s : List Char} {r : NumRes} (h : tryParseHexInteger s = some r) : r.ty ≠ .EOF :=
  (tryParseHexInteger_ok h).2

/-- `numericChoice` returns a decimal result, a hex result, or the run of digits as an invalid literal -/
theorem numericChoice_cases {view : List Char} {sd : Bool} {res : NumRes} {cx : Bool}
    (h : numericChoice view sd = some (res, cx)) :
    tryParseDecimal view (!sd) true = some res ∨ tryParseHexInteger view = some res ∨
      res = ⟨.FloatLiteral, .float 0, (view.takeWhile isAsciiDigit).length, some .InvalidNumericLiteral⟩ := by
  unfold numericChoice at h
  extract_lets hexR decR at h
  have hh : ∀ r, hexR = some r → tryParseHexInteger view = some r := by
    intro r hr; cases sd <;> simp_all [hexR]
  have hd : decR = tryParseDecimal view (!sd) true := rfl
  clear_value hexR decR
  split at h
  · (repeat' split at h) <;> simp_all
  · simp_all
  · simp_all
  · split at h
    · cases h
    · simp only [Option.some.injEq, Prod.mk.injEq] at h
      exact .inr (.inr h.1.symm)

theorem numericChoice_ok {view : List Char} {sd : Bool} {res : NumRes} {cx : Bool}
    (h : numericChoice view sd = some (res, cx)) : AllTake NumCh view res.len ∧ res.ty ≠ .EOF := by
  rcases numericChoice_cases h with h | h | rfl
  · exact tryParseDecimal_ok h
  · exact tryParseHexInteger_ok h
  · exact ⟨(Span.takeWhile fun _ => digit_NumCh).allTake, by simp⟩

/-- chars of a character format `$name?w?.d?` -/
def CfCh (c : Char) : Bool := isUnicodeNameStart c || isXidContinue c || isAsciiDigit c || c == '.'
theorem CfCh_nl : CfCh '\n' = false := by decide +kernel

theorem charFormatLen_take {r : List Char} {n : Nat} (h : charFormatLen r = some n) : AllTake CfCh r n := by
  have digits (l : List Char) : Span CfCh l _ (l.dropWhile isAsciiDigit) :=
    Span.takeWhile fun c hc => by simp [CfCh, hc]
  unfold charFormatLen at h
  split at h
  · cases h
  rename_i c t
  extract_lets r1 r2 at h
  have h1 : ∃ k, Span CfCh (c :: t) k r1 := by
    simp only [r1]
    split
    · rename_i hns
      exact ⟨_, (Span.cons (by simp [CfCh, hns])).trans (Span.takeWhile fun c hc => by simp [CfCh, hc])⟩
    · exact ⟨_, .refl⟩
  obtain ⟨k, h1⟩ := h1
  have h2 : Span CfCh (c :: t) _ r2 := h1.trans (digits r1)
  clear_value r1 r2
  split at h <;> cases h
  rename_i r3
  have h3 := (h2.trans (.cons (by simp [CfCh]))).trans (digits r3)
  rw [h3.length, Nat.add_sub_cancel]
  exact h3.allTake

end SasLexer
