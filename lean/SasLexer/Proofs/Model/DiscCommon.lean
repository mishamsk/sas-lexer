import SasLexer.Proofs.Model.Disc
import SasLexer.Lex.Common
import SasLexer.Proofs.Model.DiscLemmas
/-!
# The scanning discipline holds of the shared scanners (`Lex/Common.lean`)
One lemma per scanner: `awp (scanner …) Q r false` for every continuation `Q` that accepts any
result and remaining text (`Safe`), under the scanner's precondition on the text in front of the
cursor (the condition its Rust `debug_assert!` states, where one is needed).
A proof first fixes the postcondition (`awp.of_lag`: nothing is asked but that no line feed is pending), walks the
program with `awp_auto`, and is left with what the discipline rests on: that a character skipped is no line feed,
that a predicate eaten with rejects line feeds, that a token type emitted is no `EOF`.
-/
namespace SasLexer

attribute [awp_simp] Prog.perform P.rest P.peek P.peekNext P.advance P.advance_ P.advanceBy P.eatWhile P.addLine
  P.startToken P.emit P.emitD P.emitError P.pushMode P.popMode P.mode P.setPending P.lastTokTy P.abort P.unmodelled
  P.peekIs fuelOfRest

/-- a `debug_assert!` only reads: it is skipped as a whole, not evaluated once per build flavour -/
theorem Inert.dbg {cfg : Cfg} {cond : Prog Bool} {msg : String} (h : Inert cond) : Inert (P.dbg cfg cond msg) :=
  Inert.ite (Inert.bind h fun _ => Inert.dassert) (Inert.pure _)

theorem isWhitespace_nl : isWhitespace '\n' = true := by decide

/-- what is no white space is no line feed: all that the arms which skip a character they have tested need -/
@[grind →] theorem ne_nl_of_not_ws {c : Char} (h : isWhitespace c = false) : c ≠ '\n' := by
  rintro rfl; cases isWhitespace_nl.symm.trans h

/- the predicates given to `eatWhile` reject line feeds: settled during the walk -/
attribute [awp_simp] isWhitespace_nl isXidContinue_nl isIdentContinue_nl isSasNameContinue_nl

attribute [awp_simp] List.head?_cons List.head?_nil List.tail_cons List.tail_nil List.drop_one List.drop_succ_cons
  List.drop_zero List.drop_nil Option.getD_some Option.getD_none Option.none_beq_some eq_self ne_eq
  not_false_eq_true not_true_eq_false true_and and_true false_and and_false and_self forall_const imp_self implies_true

/-- `awp_auto [callee lemmas]` walks a goal `awp p Q r lag` along the program `p` and leaves the facts
about characters and token types on which the discipline rests.
* `if`s (before `intro`, which would evaluate the condition to find a binder), implications and conjunctions are
  taken apart first: a call of `simp` is costly even where it has nothing to do.
* A `debug_assert!` is skipped as inert; a call is discharged with one of the given lemmas
  (`with_reducible`: the lemma of another function has to fail at once, not after both programs have been unfolded).
* `simp only [awp_simp]`, on goals `awp …` only, evaluates the program up to the next call or `match`, which is then split.
  The second `apply ite_intro` is for an `if` whose instance `simp` has left behind its condition.
* `awp.of_no_lf` comes last: it commits to "no line feed was consumed" where nothing else fits.

A program is one nested term, and `simp` recurses along it: on the eight longest functions it passes the default
recursion depth, and their theorems raise it (`set_option maxRecDepth … in`). -/
syntax "awp_auto" "[" term,* "]" : tactic
macro_rules
  | `(tactic| awp_auto [$ls,*]) => `(tactic| repeat' (first
      | with_reducible apply ite_intro
      | intro _
      | with_reducible rfl
      | with_reducible exact True.intro
      | refine ⟨?_, ?_⟩
      | ((with_reducible refine Inert.awp' (Inert.dbg ?c) ?_); case c => inert)
      | (first $[| with_reducible apply $ls]*)
      | (guard_target = awp _ _ _ _; simp only [awp_simp, reduceCtorEq])
      | apply ite_intro
      | split
      | with_reducible apply awp.of_no_lf))

/-- the character an `if` has just found at the head of the text is no line feed if the one it was compared with is none -/
theorem no_lf_of_head {o : Option Char} {x : Char} (h : (o == some x) = true) (hx : (x == '\n') = false) :
    (o == some '\n') = false := by
  rw [beq_iff_eq.1 h]; exact hx

/-- close the leaf facts left by `awp_auto`: by evaluation, or by `grind` from the hypotheses of the `if`s passed (with
`ne_nl_of_not_ws`: what is no white space is no line feed) -/
macro "awp_done" : tactic => `(tactic| all_goals (first | decide | grind))

/-! A scanner that is entered on a known character is stated for any text, with the test its caller made
(`r.head? = some c`) as hypothesis: `apply` then fits whatever the text, and its shape is a side goal. -/

theorem head_cons {r : List Char} {c : Char} (h : r.head? = some c) : ∃ t, r = c :: t := by
  cases r with
  | nil => simp at h
  | cons d t => simp at h; subst h; exact ⟨t, rfl⟩

/-- the next character as `peek_next` reports it (`'\0'` at the end of the text) -/
theorem head2_cons {r : List Char} {c d : Char} (h : r.head? = some c) (h2 : (r.drop 1).head?.getD (Char.ofNat 0) = d)
    (hd : d ≠ Char.ofNat 0) : ∃ t, r = c :: d :: t := by
  obtain ⟨t, rfl⟩ := head_cons h
  cases t with
  | nil => exact absurd h2.symm hd
  | cons e u => cases h2; exact ⟨u, rfl⟩

theorem Safe.abort (m : String) : Safe (P.abort m) := Inert.panic.safe

theorem lexWsLoop_safe : ∀ (f : Nat), Safe (lexWsLoop f)
  | 0 => Safe.abort _
  | f + 1 => fun r => by
    unfold lexWsLoop
    have ih := lexWsLoop_safe f
    awp_auto [ih.awp]
    awp_done

theorem lexWs_safe (cfg : Cfg) : Safe (lexWs cfg) := by
  intro r
  unfold lexWs
  awp_auto [(lexWsLoop_safe _).awp]
  awp_done

theorem lexCStyleLoop_safe : ∀ (f : Nat), Safe (lexCStyleLoop f)
  | 0 => (Safe.abort _).bind fun _ => .pure _
  | f + 1 => fun r => by
    unfold lexCStyleLoop
    have ih := lexCStyleLoop_safe f
    awp_auto [ih.awp]
    awp_done

theorem lexCStyleComment_awp' (cfg : Cfg) {r : List Char} {Q : Unit → List Char → Bool → Prop}
    (hQ : ∀ r', Q () r' false) (h1 : r.head? = some '/') (h2 : (r.drop 1).head?.getD (Char.ofNat 0) = '*') :
    awp (lexCStyleComment cfg) Q r false := by
  obtain ⟨t, rfl⟩ := head2_cons h1 h2 (by decide)
  refine awp.of_lag (fun _ => hQ) ?_
  unfold lexCStyleComment
  awp_auto [(lexCStyleLoop_safe _).awp]
  awp_done

theorem lexStringExpressionStart_awp' (cfg : Cfg) (b : Bool) {r : List Char} {Q : Unit → List Char → Bool → Prop}
    (hQ : ∀ r', Q () r' false) (h1 : r.head? = some '"') : awp (lexStringExpressionStart cfg b) Q r false := by
  obtain ⟨t, rfl⟩ := head_cons h1
  refine awp.of_lag (fun _ => hQ) ?_
  unfold lexStringExpressionStart
  awp_auto []
  awp_done

theorem resolveStringLiteralEnding_awp {Q : TokenType → List Char → Bool → Prop} {r : List Char}
    (hQ : ∀ ty r', ty ≠ .EOF → Q ty r' false) : awp resolveStringLiteralEnding Q r false := by
  refine awp.mono (Q := fun ty _ lag => lag = false ∧ ty ≠ .EOF) (fun ty r' _ h => h.1 ▸ hQ ty r' h.2) ?_
  unfold resolveStringLiteralEnding
  awp_auto []
  awp_done

theorem resolveStringLiteralEnding_safe : Safe resolveStringLiteralEnding :=
  fun _ => resolveStringLiteralEnding_awp fun _ _ _ => rfl

theorem lexSingleQuotedLoop_safe : ∀ (f : Nat), Safe (lexSingleQuotedLoop f)
  | 0 => (Safe.abort _).bind fun _ => .pure _
  | f + 1 => fun r => by
    unfold lexSingleQuotedLoop
    have ih := lexSingleQuotedLoop_safe f
    awp_auto [ih.awp]
    awp_done

theorem lexSingleQuotedStr_awp (cfg : Cfg) (t : List Char) {Q : Unit → List Char → Bool → Prop}
    (hQ : ∀ r', Q () r' false) :
    awp (lexSingleQuotedStr cfg) Q ('\'' :: t) false := by
  refine awp.of_lag (fun _ => hQ) ?_
  unfold lexSingleQuotedStr
  awp_auto [(lexSingleQuotedLoop_safe _).awp, resolveStringLiteralEnding_awp]
  awp_done

theorem lexSingleQuotedStr_awp' (cfg : Cfg) {r : List Char} {Q : Unit → List Char → Bool → Prop}
    (hQ : ∀ r', Q () r' false) (h1 : r.head? = some '\'') : awp (lexSingleQuotedStr cfg) Q r false := by
  obtain ⟨t, rfl⟩ := head_cons h1; exact lexSingleQuotedStr_awp cfg t hQ

theorem emitResolveOps_awp : ∀ (ks : List Nat) (r : List Char) {Q : Unit → List Char → Bool → Prop},
    (∀ r', Q () r' false) → (∀ c ∈ r.take (sumPow ks), c ≠ '\n') → awp (emitResolveOps ks) Q r false
  | [], r, Q, hQ, _ => awp.pure_iff.2 (hQ r)
  | k :: ks, r, Q, hQ, h => by
    have hs : sumPow (k :: ks) = 2 ^ k + sumPow ks := by simp [sumPow]
    simp only [hs, List.take_add, List.mem_append, or_imp, forall_and] at h
    unfold emitResolveOps
    awp_auto [emitResolveOps_awp ks _ hQ h.2]
    exact h.1 _ ‹_› ‹_›

theorem amp_take_ok {r : List Char} {b : Bool} {n : Nat} (h : isMacroAmp r 0 = (b, n)) :
    ∀ c ∈ r.take n, c ≠ '\n' := by
  intro c hc
  have := (isMacroAmp_take r 0 h).2 c (by simpa using hc)
  subst this; decide

/-- `advanceBy` over a run of `&`: settled during the walk -/
@[awp_simp] theorem amp_take (r : List Char) : (∀ c ∈ r.take (isMacroAmp r 0).2, ¬c = '\n') ↔ True :=
  iff_true_intro (amp_take_ok rfl)

theorem amp_ops_ok {r : List Char} {b : Bool} {n : Nat} (h : isMacroAmp r 0 = (b, n)) :
    ∀ c ∈ r.take (sumPow (resolveOps n)), c ≠ '\n' :=
  fun c hc => amp_take_ok h c (List.take_subset_take_left r (sumPow_resolveOps_le n) hc)

set_option maxRecDepth 8000 in
theorem lexMacroVarExprLoop_safe : ∀ (f : Nat) (st : List Nat), Safe (lexMacroVarExprLoop f st)
  | _, [] => by unfold lexMacroVarExprLoop; exact .pure _
  | 0, _ :: _ => by unfold lexMacroVarExprLoop; exact .abort _
  | f + 1, s :: st => fun r => by
    unfold lexMacroVarExprLoop
    have ih := fun st => lexMacroVarExprLoop_safe f st
    awp_auto [emitResolveOps_awp, (ih _).awp]
    all_goals (first | exact amp_ops_ok rfl _ ‹_› ‹_› | grind)

theorem lexMacroVarExpr_safe (cfg : Cfg) : Safe (lexMacroVarExpr cfg) := by
  intro r
  unfold lexMacroVarExpr
  awp_auto [emitResolveOps_awp, (lexMacroVarExprLoop_safe _ _).awp]
  all_goals (first | exact amp_ops_ok rfl _ ‹_› ‹_› | grind)

theorem lexMacroCommentLoop_safe : ∀ (f : Nat) (q : Quote), Safe (lexMacroCommentLoop f q)
  | 0, q => Safe.abort _
  | f + 1, q => fun r => by
    unfold lexMacroCommentLoop
    have ih := fun q => lexMacroCommentLoop_safe f q
    awp_auto [(ih _).awp]
    awp_done

theorem lexMacroComment_awp' (cfg : Cfg) {r : List Char} {Q : Unit → List Char → Bool → Prop}
    (hQ : ∀ r', Q () r' false) (h1 : r.head? = some '%') (h2 : (r.drop 1).head?.getD (Char.ofNat 0) = '*') :
    awp (lexMacroComment cfg) Q r false := by
  obtain ⟨t, rfl⟩ := head2_cons h1 h2 (by decide)
  refine awp.of_lag (fun _ => hQ) ?_
  unfold lexMacroComment
  awp_auto [(lexMacroCommentLoop_safe _ _).awp]
  awp_done

theorem predictedOpenLoop_safe : ∀ (f : Nat), Safe (predictedOpenLoop f)
  | 0 => Safe.abort _
  | f + 1 => fun r => by
    unfold predictedOpenLoop
    have ih := predictedOpenLoop_safe f
    awp_auto [ih.awp]
    awp_done

theorem predictedMacroLoop_safe : ∀ (f : Nat), Safe (predictedMacroLoop f)
  | 0 => (Safe.abort _).bind fun _ => .pure _
  | f + 1 => fun r => by
    unfold predictedMacroLoop
    have ih := predictedMacroLoop_safe f
    awp_auto [ih.awp]
    awp_done

theorem lexPredictedComment_safe : Safe lexPredictedComment := by
  intro r
  unfold lexPredictedComment
  awp_auto [(predictedOpenLoop_safe _).awp, (predictedMacroLoop_safe _).awp]
  awp_done

theorem lexCharFormat_safe : Safe lexCharFormat := by
  intro r
  unfold lexCharFormat
  awp_auto []
  all_goals (first | exact (charFormatLen_take ‹_›).no_nl CfCh_nl _ ‹_› ‹_› | grind)

theorem expectedCharAndError_ne_eof {ty : TokenType} {x : Char × ErrorKind} (h : expectedCharAndError ty = some x) :
    ty ≠ .EOF := by
  intro he; subst he; simp [expectedCharAndError] at h

theorem expectedChar_ne_nl {ty : TokenType} {ec : Char} {ek : ErrorKind}
    (h : expectedCharAndError ty = some (ec, ek)) : ec ≠ '\n' := by
  unfold expectedCharAndError at h
  split at h <;> simp at h <;> (obtain ⟨rfl, _⟩ := h; decide)

theorem lexExpectedToken_safe (cfg : Cfg) (nc : Option Char) (ty : TokenType) (ch : Channel)
    {r : List Char} (hr : nc = r.head?) {Q : Unit → List Char → Bool → Prop}
    (hQ : ∀ r', Q () r' false) : awp (lexExpectedToken cfg nc ty ch) Q r false := by
  refine awp.of_lag (fun _ => hQ) ?_
  unfold lexExpectedToken
  awp_auto []
  all_goals (first | exact absurd ‹ty = _› (expectedCharAndError_ne_eof ‹_›) | (have h0 := expectedChar_ne_nl ‹expectedCharAndError ty = _›; grind) | grind)

theorem lexNumericLiteral_safe (cfg : Cfg) (sd : Bool) : Safe (lexNumericLiteral cfg sd) := by
  intro r
  unfold lexNumericLiteral
  awp_auto []
  all_goals (first | exact (numericChoice_ok ‹_›).1.no_nl NumCh_nl _ ‹_› ‹_› | exact absurd ‹_› (numericChoice_ok ‹_›).2 | grind [isXChar])

end SasLexer
