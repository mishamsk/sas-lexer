import SasLexer.Proofs.Model.Disc
import SasLexer.Proofs.Model.DiscLemmas
import SasLexer.Proofs.Kernel.Run
import SasLexer.Proofs.Pure.Lines
/-!
# Soundness of the scanning discipline

`DInv lag L` is the concrete invariant: the line table is exact for the consumed prefix (up to one pending
line feed when `lag`), every stored (char offset, line) pair — pending token start, mark, tokens, checkpoint —
agrees with the text, every recorded error has the right line and column, no token has type `EOF`.
`step_DInv`: each primitive whose side condition `dOk` holds preserves it and behaves as `dPost` says;
`awp_sound`: hence every program with `awp` preserves it over every run (both build profiles).
-/
namespace SasLexer

theorem advanceBy_rest (n : Nat) (c : Cursor) : (c.advanceBy n).rest = c.rest.drop n ∧
    (c.advanceBy n).charOff = c.charOff + (c.rest.take n).length := by
  rw [Cursor.advanceBy_eq]; exact ⟨rfl, rfl⟩

theorem eatWhile_rest (p : Char → Bool) (c : Cursor) : (c.eatWhile p).rest = c.rest.dropWhile p ∧
    (c.eatWhile p).charOff = c.charOff + (c.rest.takeWhile p).length := by
  have h := advanceBy_rest (c.rest.takeWhile p).length c
  rw [← Cursor.eatWhile_eq, drop_takeWhile_length, List.length_take, Nat.min_eq_left (List.takeWhile_sublist p).length_le] at h
  exact h

/-- a stored (char offset, line index) pair agrees with the text -/
def LineOK (s : List Char) (start line : Nat) : Prop := bomChars s ≤ start ∧ line = lineIdxOfChar s start

structure ErrOK (s : List Char) (e : ErrInfo) : Prop where
  line : e.line = lineIdxOfChar s e.char + 1
  col : e.col = colOfChar s e.char

/-- the line table is exact for the consumed prefix `pre` (or, while a line feed is pending, for the
prefix before that line feed) -/
def LinesAt (L : Lexer) (lag : Bool) (pre : List Char) : Prop :=
  if lag = true then ∃ p0, pre = p0 ++ ['\n'] ∧ L.linesR.reverse = lineTab L.src p0
  else L.linesR.reverse = lineTab L.src pre

structure DInv (lag : Bool) (L : Lexer) : Prop where
  pre : ∃ pre, L.src = pre ++ L.cur.rest ∧ L.cur.charOff = pre.length ∧ bomChars L.src ≤ pre.length ∧ LinesAt L lag pre
  tok : LineOK L.src L.tok.start L.tok.line
  mark : ∀ m, L.mark = some m → LineOK L.src m.start m.line
  toks : ∀ t ∈ L.toksR, LineOK L.src t.start t.line ∧ t.ty ≠ .EOF
  errs : ∀ e ∈ L.errsR, ErrOK L.src e
  errReg : ∀ e, L.errReg = some e → ErrOK L.src e
  cp : ∀ c, L.cp = some c → c.cur.charOff ≤ L.cur.charOff ∧ bomChars L.src ≤ c.cur.charOff ∧
        c.nLines = lineIdxOfChar L.src c.cur.charOff + 1 ∧ LineOK L.src c.tok.start c.tok.line

namespace DInv
variable {L : Lexer} {cfg : Cfg} {lag : Bool}

/-- `DInv` only reads these fields -/
theorem congr {L L' : Lexer} (h : DInv lag L)
    (e1 : L'.src = L.src) (e3 : L'.cur = L.cur) (e4 : L'.tok = L.tok)
    (e5 : L'.toksR = L.toksR) (e6 : L'.linesR = L.linesR) (e7 : L'.errsR = L.errsR)
    (e8 : L'.cp = L.cp) (e9 : L'.mark = L.mark) (e10 : L'.errReg = L.errReg) : DInv lag L' := by
  constructor <;> simp only [e1, e3, e4, e5, e6, e7, e8, e9, e10, LinesAt]
  · exact h.pre
  · exact h.tok
  · exact h.mark
  · exact h.toks
  · exact h.errs
  · exact h.errReg
  · exact h.cp

/-- `pre` of the invariant when no line feed is pending -/
theorem lines (h : DInv false L) : ∃ pre, L.src = pre ++ L.cur.rest ∧ L.cur.charOff = pre.length ∧
    bomChars L.src ≤ pre.length ∧ L.linesR.reverse = lineTab L.src pre :=
  h.pre

/-- facts about the current position when no line feed is pending -/
theorem here (h : DInv false L) :
    L.linesR.length = lineIdxOfChar L.src L.curChar + 1 ∧ bomChars L.src ≤ L.curChar ∧
    (match L.linesR with | li :: _ => li.start | [] => 0) = L.curChar - colOfChar L.src L.curChar ∧
    colOfChar L.src L.curChar ≤ L.curChar := by
  obtain ⟨pre, hs, hc, hb, hl⟩ := h.lines
  have hlen : L.linesR.length = nlCount pre + 1 := by
    have := congrArg List.length hl
    simpa [lineTab_length] using this
  have hidx : lineIdxOfChar L.src L.curChar = nlCount pre := by
    rw [Lexer.curChar, hc]; exact lineIdxOfChar_prefix hs
  have hcol : colOfChar L.src L.curChar = pre.length - (LL L.src pre).start := by
    rw [Lexer.curChar, hc]; exact colOfChar_prefix hs
  have hLL := (LL_facts hs hb).1
  refine ⟨by rw [hlen, hidx], by rw [Lexer.curChar, hc]; exact hb, ?_, by rw [hcol, Lexer.curChar, hc]; omega⟩
  have hlast : L.linesR.head? = some (LL L.src pre) := by
    have := lineTab_getLast L.src pre
    rw [← hl, List.getLast?_reverse] at this
    exact this
  rw [hcol, Lexer.curChar, hc]
  cases hL : L.linesR with
  | nil => rw [hL] at hlast; simp at hlast
  | cons li r =>
    rw [hL] at hlast
    simp only [List.head?_cons, Option.some.injEq] at hlast
    simp only [hlast]
    omega

theorem prepError_ok (h : DInv false L) (k : ErrorKind) : ErrOK L.src (L.prepError k) := by
  obtain ⟨h1, _, h3, h4⟩ := h.here
  constructor
  · show L.lineCount = _
    rw [Lexer.lineCount, h1]; rfl
  · show L.curChar - (match L.linesR with | li :: _ => li.start | [] => 0) = colOfChar L.src L.curChar
    rw [h3]; omega

theorem curLineOK (h : DInv false L) : LineOK L.src L.curChar (L.linesR.length - 1) := by
  obtain ⟨h1, h2, _, _⟩ := h.here
  exact ⟨h2, by rw [h1]; rfl⟩

theorem emitErrorInfo (h : DInv lag L) {e : ErrInfo} (he : ErrOK L.src e) : DInv lag (L.emitErrorInfo e) :=
  { h with errs := List.forall_mem_cons.2 ⟨he, h.errs⟩ }

theorem emitError (h : DInv false L) (k : ErrorKind) : DInv false (L.emitError k) :=
  h.emitErrorInfo (h.prepError_ok k)

theorem pushMode (h : DInv lag L) (m : Mode) : DInv lag (L.pushMode m) :=
  h.congr rfl rfl rfl rfl rfl rfl rfl rfl rfl

/-- `congr`, with the error list allowed to gain an error prepared now -/
theorem congrE {L L' : Lexer} (h : DInv false L)
    (e1 : L'.src = L.src) (e3 : L'.cur = L.cur) (e4 : L'.tok = L.tok)
    (e5 : L'.toksR = L.toksR) (e6 : L'.linesR = L.linesR) (e7 : ErrStep L L')
    (e8 : L'.cp = L.cp) (e9 : L'.mark = L.mark) (e10 : L'.errReg = L.errReg) : DInv false L' := by
  rcases e7 with e7 | ⟨k, e7⟩
  · exact h.congr e1 e3 e4 e5 e6 e7 e8 e9 e10
  · exact (h.emitError k).congr e1 e3 e4 e5 e6 e7 e8 e9 e10

theorem popMode (h : DInv false L) : DInv false L.popMode :=
  h.congrE (popMode_src L) (popMode_cur L) (popMode_tok L) (popMode_toksR L) (popMode_linesR L) (popMode_errStep L)
    (popMode_cp L) (popMode_mark L) (popMode_errReg L)

theorem dassert (h : DInv lag L) (c : Bool) (m : String) : DInv lag (L.dassert cfg c m) :=
  h.congr rfl rfl rfl rfl rfl rfl rfl rfl rfl

theorem bufAddToken (h : DInv lag L) {t : TokInfo} (ht : LineOK L.src t.start t.line) (hty : t.ty ≠ .EOF) :
    DInv lag (L.bufAddToken cfg t) :=
  { h with toks := List.forall_mem_cons.2 ⟨⟨ht, hty⟩, h.toks⟩ }

theorem lastLineOrAdd_eq (h : DInv false L) : L.lastLineOrAdd cfg = (L.linesR.length - 1, L) := by
  unfold Lexer.lastLineOrAdd
  have := h.here.1
  split
  · rename_i h0; omega
  · rename_i n h0; simp [h0]

theorem startToken (h : DInv false L) : DInv false (L.startToken cfg) := by
  unfold Lexer.startToken
  rw [h.lastLineOrAdd_eq]
  exact { h with tok := h.curLineOK }

theorem markIfNone (h : DInv false L) : DInv false (L.markIfNone cfg) := by
  unfold Lexer.markIfNone; split
  · exact h
  · rw [h.lastLineOrAdd_eq]
    refine { h with mark := ?_ }
    intro m hm
    simp only [Option.some.injEq] at hm
    subst hm
    exact h.curLineOK

theorem clearMark (h : DInv lag L) : DInv lag L.clearMark :=
  { h with mark := by intro m hm; simp [Lexer.clearMark] at hm }

theorem emitToken (h : DInv lag L) (ch ty p) (hty : ty ≠ .EOF) : DInv lag (L.emitToken cfg ch ty p) :=
  h.bufAddToken (t := ⟨ch, ty, L.tok.byte, L.tok.start, L.tok.line, p⟩) h.tok hty

theorem emitTokenAtMark (h : DInv lag L) (ch ty p) (hty : ty ≠ .EOF) : DInv lag (L.emitTokenAtMark cfg ch ty p) := by
  unfold Lexer.emitTokenAtMark; split
  · rename_i m hm
    exact h.bufAddToken (t := ⟨ch, ty, m.byte, m.start, m.line, p⟩) (h.mark m hm) hty
  · exact h

theorem updateLastToken (h : DInv false L) (ch ty p) (hty : ty ≠ .EOF) : DInv false (L.updateLastToken cfg ch ty p) := by
  unfold Lexer.updateLastToken; split
  · rename_i t ts hts
    obtain ⟨h0, hts⟩ := List.forall_mem_cons.1 (hts ▸ h.toks)
    exact { h with toks := List.forall_mem_cons.2 ⟨⟨h0.1, hty⟩, hts⟩ }
  · exact (h.emitError _).bufAddToken (t := ⟨ch, ty, L.tok.byte, L.tok.start, L.tok.line, p⟩) h.tok hty

theorem withToks (h : DInv lag L) {ts : List TokInfo} {n : TokenType} (hn : n ≠ .EOF)
    (hts : ∀ t' ∈ ts, ∃ t ∈ L.toksR, t'.byte = t.byte ∧ t'.start = t.start ∧ t'.line = t.line ∧ (t'.ty = t.ty ∨ t'.ty = n)) :
    DInv lag { L with toksR := ts } := by
  refine { h with toks := ?_ }
  intro t' ht'
  obtain ⟨t, ht, -, hs, hl, hty⟩ := hts t' ht'
  exact ⟨by rw [hs, hl]; exact (h.toks t ht).1, hty.elim (· ▸ (h.toks t ht).2) (· ▸ hn)⟩

theorem addLine (h : DInv true L) (hk : KPos L) : DInv false (L.addLine cfg).2 := by
  obtain ⟨pre, hs, hc, hb, p0, hp0, hl⟩ := h.pre
  have hbyte : L.curByte = utf8Len pre := by
    rw [Lexer.curByte, hk.srcLen, hk.cur.1]
    conv => lhs; rw [hs, utf8Len_append]
    omega
  refine { h with pre := ⟨pre, hs, hc, hb, ?_⟩ }
  simp only [LinesAt, Bool.false_eq_true, if_false, Lexer.addLine, Lexer.bufAddLine, List.reverse_cons]
  rw [hl, hbyte, Lexer.curChar, hc, hp0, lineTab_snoc_nl]

theorem addStringLiteral (h : DInv lag L) (s : List Char) : DInv lag (L.addStringLiteral s).2 :=
  h.congr rfl rfl rfl rfl rfl rfl rfl rfl rfl

theorem checkpoint (h : DInv false L) : DInv false (L.checkpoint cfg) := by
  refine { h.dassert (cfg := cfg) L.cp.isNone "assertion failed: self.checkpoint.is_none()" with cp := ?_ }
  intro c hc
  simp only [Lexer.checkpoint, Option.some.injEq] at hc
  subst hc
  obtain ⟨h1, h2, _, _⟩ := h.here
  exact ⟨Nat.le_refl _, h2, h1, h.tok⟩

theorem clearCheckpoint (h : DInv lag L) : DInv lag L.clearCheckpoint :=
  { h with cp := by intro c hc; simp [Lexer.clearCheckpoint] at hc }

/-- moving the cursor over the text `a`, given what the line table is for the longer prefix -/
theorem move (h : DInv false L) {cur' : Cursor} {lag' : Bool} (a : List Char) (hr : L.cur.rest = a ++ cur'.rest)
    (hc : cur'.charOff = L.cur.charOff + a.length)
    (hl' : ∀ pre, L.linesR.reverse = lineTab L.src pre → LinesAt L lag' (pre ++ a)) : DInv lag' { L with cur := cur' } := by
  obtain ⟨pre, hs, hco, hb, hl⟩ := h.lines
  refine { h with pre := ⟨pre ++ a, ?_, ?_, ?_, hl' pre hl⟩, cp := ?_ }
  · show L.src = (pre ++ a) ++ cur'.rest
    rw [hs, hr]; simp
  · show cur'.charOff = (pre ++ a).length
    rw [hc, hco]; simp
  · show bomChars L.src ≤ (pre ++ a).length
    simp; omega
  · intro c hcp
    obtain ⟨h1, h2⟩ := h.cp c hcp
    exact ⟨by show c.cur.charOff ≤ cur'.charOff; omega, h2⟩

/-- moving the cursor over text without line feed -/
theorem moveNoNl (h : DInv false L) {cur' : Cursor} (a : List Char) (ha : ∀ c ∈ a, c ≠ '\n')
    (hr : L.cur.rest = a ++ cur'.rest) (hc : cur'.charOff = L.cur.charOff + a.length) :
    DInv false { L with cur := cur' } :=
  h.move a hr hc fun pre hl =>
    show L.linesR.reverse = lineTab L.src (pre ++ a) from (lineTab_append_no_nl _ _ _ ha).symm ▸ hl

theorem advance (h : DInv false L) :
    match L.cur.rest with
    | [] => DInv false { L with cur := L.cur.advance.2 }
    | c :: _ => DInv (c == '\n') { L with cur := L.cur.advance.2 } := by
  cases hr : L.cur.rest with
  | nil =>
    have : L.cur.advance.2 = L.cur := by simp [Cursor.advance, hr]
    rw [this]; exact h
  | cons c t =>
    simp only
    have hadv : L.cur.advance.2 = ⟨t, L.cur.charOff + 1, L.cur.remBytes - c.utf8Size⟩ := by
      simp [Cursor.advance, hr]
    rw [hadv]
    by_cases hc : c = '\n'
    · subst hc
      exact h.move ['\n'] (by simp [hr]) (by simp) fun pre hl => ⟨pre, rfl, hl⟩
    · have : (c == '\n') = false := by simp [hc]
      rw [this]
      exact h.moveNoNl [c] (by simpa using hc) (by simp [hr]) (by simp)

theorem advanceBy (h : DInv false L) (n : Nat) (hn : ∀ c ∈ L.cur.rest.take n, c ≠ '\n') :
    DInv false { L with cur := L.cur.advanceBy n } := by
  obtain ⟨h1, h2⟩ := advanceBy_rest n L.cur
  exact h.moveNoNl (L.cur.rest.take n) hn (by rw [h1]; simp) h2

theorem eatWhile (h : DInv false L) (p : Char → Bool) (hp : p '\n' = false) :
    DInv false { L with cur := L.cur.eatWhile p } := by
  obtain ⟨h1, h2⟩ := eatWhile_rest p L.cur
  refine h.moveNoNl (L.cur.rest.takeWhile p) ?_ (by rw [h1]; simp) h2
  intro c hc heq
  subst heq
  have := List.all_eq_true.1 List.all_takeWhile _ hc
  rw [hp] at this; cases this

theorem rollback (h : DInv false L) (hk : KPos L) : DInv false L.rollback := by
  unfold Lexer.rollback
  split
  · rename_i c hc
    obtain ⟨h1, h2, h3, h4⟩ := h.cp c hc
    obtain ⟨hcur, _⟩ := hk.cp c hc
    obtain ⟨_, pc, hpc, hpcl⟩ := hcur
    obtain ⟨pre, hs, hco, hb, hl⟩ := h.lines
    obtain ⟨mid, rfl⟩ : pc <+: pre := List.prefix_of_prefix_length_le ⟨_, hpc.symm⟩ ⟨_, hs.symm⟩ (by omega)
    have hn : c.nLines = nlCount pc + 1 := by
      rw [h3, hpcl]; congr 1; exact lineIdxOfChar_prefix hpc
    refine { pre := ⟨pc, hpc, hpcl, by show bomChars L.src ≤ pc.length; omega, ?_⟩, tok := h4, mark := h.mark,
             toks := fun t ht => h.toks t (mem_truncR ht), errs := fun e he => h.errs e (mem_truncR he),
             errReg := by intro e he; simp at he, cp := by intro c' hc'; simp at hc' }
    show (Lexer.truncR L.linesR c.nLines).reverse = lineTab L.src pc
    rw [truncR_reverse, hl, hn, lineTab_prefix]
  · exact h.emitError _

end DInv

/-- a state-preserving step: the cursor is untouched and the invariant is carried over -/
theorem keep {L L' : Lexer} {lag : Bool} (h : DInv lag L') (hc : L'.cur = L.cur) :
    ∃ lag', (L'.cur.rest = L.cur.rest ∧ lag' = lag) ∧ DInv lag' L' :=
  ⟨lag, ⟨by rw [hc], rfl⟩, h⟩

theorem keepC {L L' : Lexer} {lag : Bool} (h : DInv lag L)
    (e1 : L'.src = L.src) (e3 : L'.cur = L.cur) (e4 : L'.tok = L.tok)
    (e5 : L'.toksR = L.toksR) (e6 : L'.linesR = L.linesR) (e7 : L'.errsR = L.errsR)
    (e8 : L'.cp = L.cp) (e9 : L'.mark = L.mark) (e10 : L'.errReg = L.errReg) :
    ∃ lag', (L'.cur.rest = L.cur.rest ∧ lag' = lag) ∧ DInv lag' L' :=
  keep (h.congr e1 e3 e4 e5 e6 e7 e8 e9 e10) e3

/-- **one step**: an operation whose side condition holds in the abstract state `(rest, lag)` produces a
(response, rest, lag') that the abstract semantics allows, and keeps the concrete invariant -/
theorem step_DInv (cfg : Cfg) (o : Op) (L : Lexer) (lag : Bool) (hk : KPos L) (h : DInv lag L)
    (hok : dOk o L.cur.rest lag) (hp0 : L.panicked = none) (hp : (step cfg o L).2.panicked = none) :
    ∃ lag', dPost o L.cur.rest lag (step cfg o L).1 (step cfg o L).2.cur.rest lag' ∧ DInv lag' (step cfg o L).2 := by
  cases o
  case rest => exact ⟨lag, ⟨rfl, rfl, rfl⟩, h⟩
  case lastTok | lastDefaultTok | secondLastDefaultTok | hasCheckpoint | nesting | modeDepth | hasMark
      | litIsEmpty | loopProbe => exact ⟨lag, ⟨rfl, rfl⟩, h⟩
  case dassert c m => exact ⟨lag, ⟨rfl, rfl⟩, h.dassert c m⟩
  case emitEofAtCursor => exact hok.elim
  case panic m => exact absurd hp (panic_panicked cfg m L)
  case addLine => cases hok; exact ⟨false, ⟨rfl, rfl⟩, h.addLine hk⟩
  case advanceBy n =>
    obtain ⟨rfl, hn⟩ := hok
    exact ⟨false, ⟨(advanceBy_rest n _).1, rfl⟩, (h.dassert (cfg := cfg) _ _).advanceBy n hn⟩
  case eatWhile p =>
    obtain ⟨rfl, hpn⟩ := hok
    exact ⟨false, ⟨(eatWhile_rest p _).1, rfl⟩, h.eatWhile p hpn⟩
  case emitToken ch ty p => obtain ⟨rfl, hty⟩ := hok; exact keep (h.emitToken ch ty _ hty) rfl
  case emitTokenAtMark ch ty p =>
    obtain ⟨rfl, hty⟩ := hok; exact keep (h.emitTokenAtMark ch ty _ hty) (emitTokenAtMark_cur ..)
  case updateLastToken ch ty p =>
    obtain ⟨rfl, hty⟩ := hok; exact keep (h.updateLastToken ch ty _ hty) (updateLastToken_cur ..)
  case retypeLastDefault e n =>
    obtain ⟨rfl, hn⟩ := hok
    simp only [step]; split
    · exact keep (h.withToks hn (retype_mem ‹_›)) rfl
    · exact keep h rfl
  -- none of the remaining operations is a read, so `dOk` is `false = true ∨ lag = false`
  all_goals obtain rfl : lag = false := hok.resolve_left Bool.false_ne_true
  case advance =>
    have := h.advance
    simp only [step]
    cases hr : L.cur.rest with
    | nil =>
      rw [hr] at this
      exact ⟨false, by simp [Cursor.advance, hr, dPost], this⟩
    | cons c t =>
      rw [hr] at this
      exact ⟨c == '\n', by simp [Cursor.advance, hr, dPost], this⟩
  case startToken => exact keep h.startToken (startToken_cur ..)
  case markIfNone => exact keep h.markIfNone (markIfNone_cur ..)
  case clearMark => exact keep h.clearMark rfl
  case insertSepBeforeLastDefault =>
    simp only [step]; split
    · split
      · exact keep (h.withToks (n := .MacroSep) (by decide) (insertSep_mem ‹_›)) rfl
      · exact keep h rfl
    · exact keep h rfl
  case prepError k =>
    refine keep (L' := { L with errReg := some (L.prepError k) }) { h with errReg := fun e he => ?_ } rfl
    cases he; exact h.prepError_ok k
  case emitPrepared =>
    simp only [step]; split
    · exact keep (L' := { L.emitErrorInfo _ with errReg := none })
        { h.emitErrorInfo (h.errReg _ ‹_›) with errReg := nofun } rfl
    · exact keep h rfl
  case checkpoint => exact keep h.checkpoint rfl
  case clearCheckpoint => exact keep h.clearCheckpoint rfl
  case bumpCheckpointModeLen n =>
    exact keep (L' := (step cfg (.bumpCheckpointModeLen n) L).2) { h with cp := step_bump h.cp fun _ => id } rfl
  case rollback => exact ⟨false, rfl, h.rollback hk⟩
  all_goals
    exact keep (h.congrE step_frame.src (step_frame.cur rfl) (step_frame.tok rfl) (step_frame.toksR rfl) (step_frame.linesR rfl) (step_errStep rfl)
      (step_frame.cp rfl) (step_frame.mark rfl) (step_frame.errReg rfl)) (step_frame.cur rfl)

/-- **soundness of the discipline**: a program with `awp`, run from a state that satisfies the concrete
invariant, either panics or returns a value in a state that satisfies the invariant again, with the
postcondition holding of the real remaining text -/
theorem awp_sound (cfg : Cfg) {α : Type} (p : Prog α) (Q : α → List Char → Bool → Prop) :
    ∀ (L : Lexer) (lag : Bool), KPos L → DInv lag L → L.panicked = none → awp p Q L.cur.rest lag →
      (Prog.run cfg p L).2.panicked = none →
      ∃ a lag', (Prog.run cfg p L).1 = some a ∧ KPos (Prog.run cfg p L).2 ∧ DInv lag' (Prog.run cfg p L).2 ∧
        Q a (Prog.run cfg p L).2.cur.rest lag' := by
  intro L lag hk h hp0 hw hpr
  obtain ⟨-, hq⟩ := run_sound cfg (σ := List Char × Bool) (J := fun _ => True) (W := fun p s => awp p Q s.1 s.2)
    (Q := fun a s => Q a s.1 s.2) (Inv := fun s L => L.cur.rest = s.1 ∧ KPos L ∧ DInv s.2 L ∧ L.panicked = none)
    (fun _ _ _ => trivial) (fun _ _ h => awp.ret_iff.1 h)
    (fun o k s L hw ⟨hr, hk, h, hp0⟩ => ⟨trivial, fun hp => by
      obtain ⟨hok, hk'⟩ := awp.op_iff.1 hw
      obtain ⟨lag', hpost, hinv⟩ := step_DInv cfg o L s.2 hk h (hr ▸ hok) hp0 hp
      exact ⟨(_, lag'), ⟨rfl, step_KPos cfg o L hk, hinv, hp⟩, hk' _ _ lag' (hr ▸ hpost)⟩⟩) p (L.cur.rest, lag) L hw
    ⟨rfl, hk, h, hp0⟩
  obtain ⟨a, hr⟩ := Option.isSome_iff_exists.1 (run_isSome cfg p L hpr)
  obtain ⟨⟨r', lag'⟩, hQ, hr', hk', hi, -⟩ := hq a hr
  exact ⟨a, lag', hr, hk', hi, hr' ▸ hQ⟩

end SasLexer
