import SasLexer.Proofs.Kernel.Mono
/-!
# Token starts never decrease — in both build profiles (`swp`)

The debug build *asserts* that a token does not start before its predecessor (`KMono`: sorted unless that assertion
fired).  This file proves it of the control logic itself, so that it holds for release builds too.

Abstract state: `stale` — the newest token may start after the pending token start (after `emitTokenAtMark` /
`emitEofAtCursor`, until the next `startToken`); `mrk` — what is known of the mark register; `cpc` — the live
checkpoint, if any, was taken in a non-stale state.  Responses are not consulted at all.
-/
namespace SasLexer
open Lexer

inductive MK where | none | valid | invalid
  deriving DecidableEq

structure SS where
  stale : Bool
  mrk : MK
  cpc : Bool

def sOk : Op → SS → Prop
  | .emitToken _ _ _, σ => σ.stale = false
  | .emitTokenAtMark _ _ _, σ => σ.stale = false ∧ σ.mrk ≠ .invalid
  | _, _ => True

def sNext : Op → SS → SS
  | .startToken, σ => { σ with stale := false, mrk := match σ.mrk with | .none => .none | _ => .invalid }
  | .emitTokenAtMark _ _ _, σ => { σ with stale := true }
  | .emitEofAtCursor, σ => { σ with stale := true }
  | .markIfNone, σ => { σ with mrk := match σ.mrk with | .none => .valid | m => m }
  | .clearMark, σ => { σ with mrk := .none }
  | .checkpoint, σ => { σ with cpc := !σ.stale }
  | .clearCheckpoint, σ => { σ with cpc := true }
  | .rollback, σ => { σ with stale := σ.stale || !σ.cpc, mrk := match σ.mrk with | .none => .none | _ => .invalid }
  | _, σ => σ

def swp {α : Type} : Prog α → (α → SS → Prop) → SS → Prop
  | .ret a, Q, σ => Q a σ
  | .op (.panic _) _, _, _ => True
  | .op o k, Q, σ => sOk o σ ∧ ∀ r, swp (k r) Q (sNext o σ)

namespace swp
variable {α β : Type}

theorem op_iff {o : Op} {k : Resp o → Prog α} {Q : α → SS → Prop} {σ : SS} (ho : ∀ m, o ≠ .panic m) :
    swp (Prog.op o k) Q σ ↔ sOk o σ ∧ ∀ r, swp (k r) Q (sNext o σ) := by
  cases o <;> first | exact Iff.rfl | exact absurd rfl (ho _)

theorem mono {p : Prog α} {Q Q' : α → SS → Prop} (hQ : ∀ a σ, Q a σ → Q' a σ) : ∀ {σ}, swp p Q σ → swp p Q' σ := by
  induction p with
  | ret a => intro σ h; exact hQ _ _ h
  | op o k ih =>
    intro σ h
    rcases Op.panic_cases o with ⟨m, rfl⟩ | ho'
    · trivial
    · rw [op_iff ho'] at h ⊢
      exact ⟨h.1, fun r => ih r (h.2 r)⟩

theorem bind_iff {p : Prog α} {f : α → Prog β} {Q : β → SS → Prop} :
    ∀ {σ}, swp (p >>= f) Q σ ↔ swp p (fun a σ' => swp (f a) Q σ') σ := by
  induction p with
  | ret a => intro σ; exact Iff.rfl
  | op o k ih =>
    intro σ
    rcases Op.panic_cases o with ⟨m, rfl⟩ | ho'
    · exact Iff.rfl
    · show swp (Prog.op o fun r => k r >>= f) Q σ ↔ _
      rw [op_iff ho', op_iff ho']
      constructor
      · intro h; exact ⟨h.1, fun r => (ih r).1 (h.2 r)⟩
      · intro h; exact ⟨h.1, fun r => (ih r).2 (h.2 r)⟩

theorem ite_iff {c : Prop} [Decidable c] {p q : Prog α} {Q : α → SS → Prop} {σ : SS} :
    swp (if c then p else q) Q σ ↔ if c then swp p Q σ else swp q Q σ := by
  split <;> rfl

theorem ite_intro {c : Prop} [Decidable c] {a b : Prop} (ht : c → a) (he : ¬c → b) : if c then a else b := by
  split
  · exact ht ‹_›
  · exact he ‹_›

@[simp] theorem pure_iff {a : α} {Q : α → SS → Prop} {σ : SS} : swp (pure a : Prog α) Q σ ↔ Q a σ := Iff.rfl
@[simp] theorem ret_iff {a : α} {Q : α → SS → Prop} {σ : SS} : swp (Prog.ret a) Q σ ↔ Q a σ := Iff.rfl

end swp

structure SInv (σ : SS) (L : Lexer) : Prop where
  sorted : SortedR L.toksR
  le : ∀ t ∈ L.toksR, t.byte ≤ L.curByte
  tokLe : L.tok.byte ≤ L.curByte
  fresh : σ.stale = false → ∀ t ∈ L.toksR, t.byte ≤ L.tok.byte
  markN : σ.mrk = .none → L.mark = none
  markV : σ.mrk = .valid → ∀ m, L.mark = some m → L.tok.byte ≤ m.byte ∧ m.byte ≤ L.curByte
  /-- what `rollback` restores: the tokens it keeps, the checkpoint's pending start and cursor satisfy `le`, `tokLe`, and
  `fresh` if the checkpoint was taken in a fresh state (`L.srcLen - c.cur.remBytes` is `curByte` once the cursor is `c.cur`) -/
  cp : ∀ c, L.cp = some c → c.nToks ≤ L.toksR.length ∧ c.tok.byte ≤ L.srcLen - c.cur.remBytes ∧
        (∀ t ∈ truncR L.toksR c.nToks, t.byte ≤ L.srcLen - c.cur.remBytes) ∧
        (σ.cpc = true → ∀ t ∈ truncR L.toksR c.nToks, t.byte ≤ c.tok.byte)

theorem retype_truncR {e n : TokenType} {ts ts' : List TokInfo} (h : retypeLastDefaultAux e n ts = some ts') (k : Nat) :
    (truncR ts' k).map (·.byte) = (truncR ts k).map (·.byte) :=
  truncR_map_congr _ (retype_bytes h) k

theorem insertSep_truncR : ∀ {ts ts' : List TokInfo}, insertSepAux ts = some ts' → ∀ n, n ≤ ts.length →
    ∀ x ∈ truncR ts' n, ∃ y ∈ truncR ts n, x.byte = y.byte := by
  intro ts ts' h n hn
  -- dropping one more of the list with the separator leaves bytes that the old list has after dropping
  have key : ∀ (a : List TokInfo) (t : TokInfo) (b : List TokInfo) (k : Nat),
      ∀ x ∈ (a ++ t :: { t with chan := .DEFAULT, ty := .MacroSep, payload := .none } :: b).drop (k + 1),
        ∃ y ∈ (a ++ t :: b).drop k, x.byte = y.byte := by
    intro a t b
    induction a with
    | nil => exact fun k => mem_of_map_byte (by simp [List.map_drop])
    | cons c a ih =>
      intro k x hx
      cases k with
      | succ k => exact ih k x hx
      | zero =>
        simp only [List.cons_append, List.drop_succ_cons, List.drop_zero, List.mem_append, List.mem_cons] at hx ⊢
        rcases hx with h | rfl | rfl | h
        · exact ⟨x, .inr (.inl h), rfl⟩
        · exact ⟨x, .inr (.inr (.inl rfl)), rfl⟩
        · exact ⟨t, .inr (.inr (.inl rfl)), rfl⟩
        · exact ⟨x, .inr (.inr (.inr h)), rfl⟩
  obtain ⟨a, t, b, rfl, rfl⟩ := insertSep_eq h
  unfold truncR
  have e : (a ++ t :: { t with chan := .DEFAULT, ty := .MacroSep, payload := .none } :: b).length - n
      = ((a ++ t :: b).length - n) + 1 := by simp at hn ⊢; omega
  rw [e]; exact key a t b _

namespace SInv
variable {σ : SS} {L : Lexer} {cfg : Cfg}

/-- the cursor moves forward; `SInv` reads the token bytes, the cursor's remaining bytes, the source length, the pending
token start, the mark, the checkpoint -/
theorem forward {L' : Lexer} (h : SInv σ L) (e1 : L'.toksR = L.toksR) (e2 : L'.cur.remBytes ≤ L.cur.remBytes)
    (e3 : L'.srcLen = L.srcLen) (e4 : L'.tok = L.tok) (e5 : L'.mark = L.mark) (e6 : L'.cp = L.cp) : SInv σ L' := by
  have ec := curByte_mono e3 e2
  constructor
  · rw [e1]; exact h.sorted
  · rw [e1]; intro t ht; exact Nat.le_trans (h.le t ht) ec
  · rw [e4]; exact Nat.le_trans h.tokLe ec
  · rw [e1, e4]; exact h.fresh
  · rw [e5]; exact h.markN
  · rw [e5, e4]; intro hv m hm; exact ⟨(h.markV hv m hm).1, Nat.le_trans (h.markV hv m hm).2 ec⟩
  · rw [e6, e1, e3]; exact h.cp

theorem frame {L' : Lexer} (h : SInv σ L) (e1 : L'.toksR = L.toksR) (e2 : L'.cur = L.cur) (e3 : L'.srcLen = L.srcLen)
    (e4 : L'.tok = L.tok) (e5 : L'.mark = L.mark) (e6 : L'.cp = L.cp) : SInv σ L' :=
  h.forward e1 (Nat.le_of_eq (congrArg _ e2)) e3 e4 e5 e6

/-- the abstract state may forget -/
theorem weaken {σ' : SS} (h : SInv σ L) (h1 : σ'.stale = false → σ.stale = false) (h2 : σ'.mrk = .none → σ.mrk = .none)
    (h3 : σ'.mrk = .valid → σ.mrk = .valid) (h4 : σ'.cpc = true → σ.cpc = true) : SInv σ' L :=
  { sorted := h.sorted, le := h.le, tokLe := h.tokLe, fresh := fun hs => h.fresh (h1 hs), markN := fun hm => h.markN (h2 hm),
    markV := fun hm => h.markV (h3 hm),
    cp := fun c hc => ⟨(h.cp c hc).1, (h.cp c hc).2.1, (h.cp c hc).2.2.1, fun hcc => (h.cp c hc).2.2.2 (h4 hcc)⟩ }

/-- the token list changes but every byte offset is one that was there, the newest keeps its offset, and the oldest
`n` keep theirs for every `n` a checkpoint can hold -/
theorem withToks {ts : List TokInfo} (h : SInv σ L) (hs : SortedR ts)
    (hmem : ∀ x ∈ ts, ∃ y ∈ L.toksR, x.byte = y.byte) (hlen : L.toksR.length ≤ ts.length)
    (htr : ∀ n, n ≤ L.toksR.length → ∀ x ∈ truncR ts n, ∃ y ∈ truncR L.toksR n, x.byte = y.byte) :
    SInv σ { L with toksR := ts } := by
  constructor
  · exact hs
  · intro t ht; obtain ⟨y, hy, hb⟩ := hmem t ht; rw [hb]; exact h.le y hy
  · exact h.tokLe
  · intro hst t ht; obtain ⟨y, hy, hb⟩ := hmem t ht; rw [hb]; exact h.fresh hst y hy
  · exact h.markN
  · exact h.markV
  · intro c hc
    obtain ⟨h1, h2, h3, h4⟩ := h.cp c hc
    refine ⟨Nat.le_trans h1 hlen, h2, ?_, ?_⟩
    · intro t ht; obtain ⟨y, hy, hb⟩ := htr _ h1 t ht; rw [hb]; exact h3 y hy
    · intro hcc t ht; obtain ⟨y, hy, hb⟩ := htr _ h1 t ht; rw [hb]; exact h4 hcc y hy

/-- the token list changes but not its byte offsets -/
theorem withBytes {ts : List TokInfo} (h : SInv σ L) (e : ts.map (·.byte) = L.toksR.map (·.byte)) :
    SInv σ { L with toksR := ts } :=
  h.withToks (SortedR.of_bytes e h.sorted) (mem_of_map_byte e) (by simpa using Nat.le_of_eq (congrArg List.length e).symm)
    (fun n _ => mem_of_map_byte (truncR_map_congr _ e n))

/-- a token is appended whose start is not before the newest one and not after the cursor -/
theorem push {σ' : SS} (h : SInv σ L) (t : TokInfo) (h1 : ∀ x ∈ L.toksR, x.byte ≤ t.byte) (h2 : t.byte ≤ L.curByte)
    (hm : σ'.mrk = σ.mrk) (hc : σ'.cpc = σ.cpc)
    (h3 : σ'.stale = false → σ.stale = false ∧ t.byte ≤ L.tok.byte) : SInv σ' (L.bufAddToken cfg t) := by
  constructor
  · exact List.pairwise_cons.2 ⟨h1, h.sorted⟩
  · intro x hx
    simp only [Lexer.bufAddToken, List.mem_cons] at hx
    rcases hx with rfl | hx
    · exact h2
    · exact h.le x hx
  · exact h.tokLe
  · intro hs x hx
    simp only [Lexer.bufAddToken, List.mem_cons] at hx
    rcases hx with rfl | hx
    · exact (h3 hs).2
    · exact h.fresh (h3 hs).1 x hx
  · rw [hm]; exact h.markN
  · rw [hm]; exact h.markV
  · intro c hcc
    obtain ⟨h1', h2', h3', h4'⟩ := h.cp c hcc
    simp only [Lexer.bufAddToken]
    refine ⟨by simp; omega, h2', ?_, ?_⟩
    · rw [truncR_cons_of_le _ _ h1']; exact h3'
    · rw [truncR_cons_of_le _ _ h1', hc]; exact h4'

end SInv


theorem step_SInv (cfg : Cfg) (o : Op) (L : Lexer) (σ : SS) (h : SInv σ L) (ho : sOk o σ) :
    SInv (sNext o σ) (step cfg o L).2 := by
  have hl : SInv σ (L.lastLineOrAdd cfg).2 :=
    h.frame (lastLineOrAdd_toksR cfg L) (lastLineOrAdd_cur cfg L) (lastLineOrAdd_srcLen cfg L) (lastLineOrAdd_tok cfg L)
      (lastLineOrAdd_mark cfg L) (lastLineOrAdd_cp cfg L)
  have hE : ∀ k, SInv σ (L.emitError k) := fun _ => h.frame rfl rfl rfl rfl rfl rfl
  have noMark : ∀ {P : Prop}, (match σ.mrk with | .none => MK.none | _ => .invalid) = .valid → P := by
    intro P hm; cases hk : σ.mrk <;> simp [hk] at hm
  have markNone : (match σ.mrk with | .none => MK.none | _ => .invalid) = .none → σ.mrk = .none := by
    intro hm; cases hk : σ.mrk <;> simp [hk] at hm ⊢
  cases o
  case startToken =>
    have ec := lastLineOrAdd_curByte cfg L
    refine { hl with tokLe := Nat.le_of_eq ec.symm, fresh := fun _ t ht => Nat.le_trans (hl.le t ht) (Nat.le_of_eq ec), markN := ?_, markV := ?_ }
    · exact fun hm => hl.markN (markNone hm)
    · exact fun hm => noMark hm
  case emitToken ch ty p =>
    exact h.push _ (fun x hx => h.fresh ho x hx) h.tokLe rfl rfl (fun hs => ⟨hs, Nat.le_refl _⟩)
  case emitTokenAtMark ch ty p =>
    simp only [step, sNext, Lexer.emitTokenAtMark]
    cases hm : L.mark with
    | none => exact h.weaken (by intro hs; cases hs) id id id
    | some m =>
      have hv : σ.mrk = .valid := by
        cases hk : σ.mrk with
        | none => have := h.markN hk; rw [hm] at this; cases this
        | valid => rfl
        | invalid => exact absurd hk ho.2
      obtain ⟨b1, b2⟩ := h.markV hv m hm
      exact h.push (cfg := cfg) ⟨ch, ty, m.byte, m.start, m.line, p.resolve L⟩
        (fun x hx => Nat.le_trans (h.fresh ho.1 x hx) b1) b2 rfl rfl (fun hs => by cases hs)
  case updateLastToken ch ty p =>
    simp only [step, sNext, Lexer.updateLastToken]
    cases hl : L.toksR with
    | cons t ts => exact h.withBytes (by simp [hl])
    | nil =>
      refine (hE _).push _ ?_ h.tokLe rfl rfl (fun hs => ⟨hs, Nat.le_refl _⟩)
      intro x hx; rw [show (L.emitError _).toksR = [] from hl] at hx; cases hx
  case retypeLastDefault e n => exact step_retype h fun _ hts => h.withBytes (retype_bytes hts)
  case insertSepBeforeLastDefault =>
    exact step_insertSep h fun _ hts => h.withToks (insertSep_sorted hts h.sorted)
      (fun x hx => (insertSep_mem hts x hx).imp fun y hy => ⟨hy.1, hy.2.1⟩) (by rw [length_insertSep hts]; omega)
      (insertSep_truncR hts)
  case markIfNone =>
    simp only [step, sNext, Lexer.markIfNone]
    cases hm : L.mark with
    | some m =>
      refine h.weaken id ?_ ?_ id
      · intro hk; cases hs : σ.mrk <;> simp [hs] at hk ⊢
      · intro hk
        cases hs : σ.mrk with
        | none => have := h.markN hs; rw [hm] at this; cases this
        | valid => rfl
        | invalid => rw [hs] at hk; cases hk
    | none =>
      refine { hl with markN := fun hk => ?_, markV := fun _ m' hm' => ?_ }
      · cases hs : σ.mrk <;> simp [hs] at hk
      · cases hm'
        exact ⟨(lastLineOrAdd_tok cfg L).symm ▸ h.tokLe, Nat.le_of_eq (lastLineOrAdd_curByte cfg L).symm⟩
  case clearMark => exact { h with markN := fun _ => rfl, markV := fun hk => nomatch hk }
  case checkpoint =>
    refine { h with cp := ?_ }
    intro c hc
    cases hc
    simp only [step, Lexer.checkpoint, Lexer.dassert, truncR_self]
    exact ⟨Nat.le_refl _, h.tokLe, h.le, fun hcc => h.fresh (by simpa [sNext] using hcc)⟩
  case clearCheckpoint => exact { h with cp := fun c hc => nomatch hc }
  case bumpCheckpointModeLen n => exact { h with cp := step_bump h.cp fun _ => id }
  case rollback =>
    simp only [step, sNext, Lexer.rollback]
    cases hc : L.cp with
    | none =>
      exact (hE _).weaken (fun hs => by simp only [Bool.or_eq_false_iff] at hs; exact hs.1) markNone (fun hk => noMark hk) id
    | some c =>
      obtain ⟨h1, h2, h3, h4⟩ := h.cp c hc
      exact { sorted := h.sorted.truncR _, le := h3, tokLe := h2,
              fresh := fun hs => h4 (show σ.cpc = true by simp at hs; exact hs.2),
              markN := fun hk => h.markN (markNone hk), markV := fun hk => noMark hk, cp := fun c' hc' => nomatch hc' }
  case emitEofAtCursor =>
    exact hl.push (cfg := cfg) ⟨.DEFAULT, .EOF, (L.lastLineOrAdd cfg).2.curByte, (L.lastLineOrAdd cfg).2.curChar, (L.lastLineOrAdd cfg).1, .none⟩
      hl.le (Nat.le_refl _) rfl rfl (fun hs => nomatch hs)
  all_goals
    exact h.forward (step_frame.toksR rfl) (step_rem cfg _ L nofun) step_frame.srcLen (step_frame.tok rfl) (step_frame.mark rfl) (step_frame.cp rfl)


theorem swp_sound (cfg : Cfg) {α : Type} (p : Prog α) : ∀ (Q : α → SS → Prop) (σ : SS) (L : Lexer), swp p Q σ → SInv σ L →
    SortedR (Prog.run cfg p L).2.toksR ∧ ∀ a, (Prog.run cfg p L).1 = some a → ∃ σ', Q a σ' ∧ SInv σ' (Prog.run cfg p L).2 := by
  intro Q
  refine run_sound cfg (J := fun L => SortedR L.toksR) (W := fun p σ => swp p Q σ) (fun _ _ hi => hi.sorted) (fun _ _ h => h)
    ?_ p
  intro o k σ L h hi
  rcases Op.panic_cases o with ⟨m, rfl⟩ | ho
  · exact ⟨(step_SInv cfg (.panic m) L σ hi trivial).sorted, fun hp => absurd hp (panic_panicked cfg m L)⟩
  · rw [swp.op_iff ho] at h
    have hs := step_SInv cfg o L σ hi h.1
    exact ⟨hs.sorted, fun _ => ⟨_, hs, h.2 _⟩⟩

/-- entered with a fresh token start, leaves one: the scanners and everything they call -/
def SClean {α : Type} (p : Prog α) : Prop :=
  ∀ (Q : α → SS → Prop) (σ : SS), σ.stale = false → (∀ a σ', σ'.stale = false → Q a σ') → swp p Q σ
/-- entered with a fresh token start; may leave a stale one -/
def SC {α : Type} (p : Prog α) : Prop :=
  ∀ (Q : α → SS → Prop) (σ : SS), σ.stale = false → (∀ a σ', Q a σ') → swp p Q σ
/-- safe from every state: the dispatchers (they call `startToken` before they emit) -/
def SAny {α : Type} (p : Prog α) : Prop := ∀ (Q : α → SS → Prop) (σ : SS), (∀ a σ', Q a σ') → swp p Q σ

theorem SClean.swp {α} {p : Prog α} (h : SClean p) {Q : α → SS → Prop} {σ : SS} (hs : σ.stale = false)
    (hQ : ∀ a σ', σ'.stale = false → Q a σ') : swp p Q σ := h Q σ hs hQ
theorem SAny.swp {α} {p : Prog α} (h : SAny p) {Q : α → SS → Prop} {σ : SS} (hQ : ∀ a σ', Q a σ') : swp p Q σ := h Q σ hQ

theorem SClean.sc {α} {p : Prog α} (h : SClean p) : SC p := fun Q σ hs hQ => h Q σ hs (fun a σ' _ => hQ a σ')
theorem SAny.sc {α} {p : Prog α} (h : SAny p) : SC p := fun Q σ _ hQ => h Q σ hQ

/-- operations after which the token start is still fresh if it was -/
def keepsFresh : Op → Bool
  | .emitTokenAtMark _ _ _ | .emitEofAtCursor | .rollback => false
  | _ => true

namespace SClean
variable {α β : Type}
theorem pure (a : α) : SClean (Pure.pure a : Prog α) := fun _ _ hs hQ => hQ a _ hs
theorem bind {p : Prog α} {f : α → Prog β} (hp : SClean p) (hf : ∀ a, SClean (f a)) : SClean (p >>= f) := by
  intro Q σ hs hQ
  rw [swp.bind_iff]
  exact hp _ σ hs (fun a σ' hs' => hf a Q σ' hs' hQ)
theorem ite {c : Prop} [Decidable c] {p q : Prog α} (hp : SClean p) (hq : SClean q) : SClean (if c then p else q) := by
  split
  · exact hp
  · exact hq
theorem op (o : Op) (h1 : keepsFresh o = true) : SClean (Prog.perform o) := by
  intro Q σ hs hQ
  rcases Op.panic_cases o with ⟨m, rfl⟩ | hp
  · trivial
  · rw [Prog.perform, swp.op_iff hp]
    refine ⟨?_, fun r => hQ _ _ ?_⟩
    · cases o <;> first | trivial | exact hs | (simp [keepsFresh] at h1)
    · cases o <;> first | exact hs | rfl | (simp [keepsFresh] at h1)
end SClean

namespace SC
variable {α β : Type}
theorem bind {p : Prog α} {f : α → Prog β} (hp : SClean p) (hf : ∀ a, SC (f a)) : SC (p >>= f) := by
  intro Q σ hs hQ
  rw [swp.bind_iff]
  exact hp _ σ hs (fun a σ' hs' => hf a Q σ' hs' hQ)
theorem ite {c : Prop} [Decidable c] {p q : Prog α} (hp : SC p) (hq : SC q) : SC (if c then p else q) := by
  split
  · exact hp
  · exact hq
end SC

namespace SAny
variable {α β : Type}
theorem pure (a : α) : SAny (Pure.pure a : Prog α) := fun _ _ hQ => hQ a _
theorem bind {p : Prog α} {f : α → Prog β} (hp : SAny p) (hf : ∀ a, SAny (f a)) : SAny (p >>= f) := by
  intro Q σ hQ
  rw [swp.bind_iff]
  exact hp _ σ (fun a σ' => hf a Q σ' hQ)
theorem ite {c : Prop} [Decidable c] {p q : Prog α} (hp : SAny p) (hq : SAny q) : SAny (if c then p else q) := by
  split
  · exact hp
  · exact hq
/-- operations that need nothing of the state -/
theorem op (o : Op) (h : ∀ σ, sOk o σ) : SAny (Prog.perform o) := by
  intro Q σ hQ
  rcases Op.panic_cases o with ⟨m, rfl⟩ | hp
  · trivial
  · rw [Prog.perform, swp.op_iff hp]
    exact ⟨h σ, fun r => hQ _ _⟩
/-- `startToken` makes the token start fresh -/
theorem start {f : Unit → Prog β} (hf : ∀ a, SC (f a)) : SAny (Prog.perform .startToken >>= f) := by
  intro Q σ hQ
  rw [swp.bind_iff, Prog.perform, swp.op_iff (by intro m h; cases h)]
  exact ⟨trivial, fun r => hf r Q _ rfl hQ⟩
/-- `SC.bind` under a second name -/
theorem bindSC {p : Prog α} {f : α → Prog β} (hp : SClean p) (hf : ∀ a, SC (f a)) : SC (p >>= f) := SC.bind hp hf
end SAny

attribute [irreducible] SClean SC SAny

end SasLexer
