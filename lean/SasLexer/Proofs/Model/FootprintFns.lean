import SasLexer.Proofs.Model.Footprint
import SasLexer.Proofs.Model.ChanTypes
/-!
# The footprint of every function of the control logic

Four primitives matter to some discipline by their mere occurrence (`Op.special`); of the others it only matters
that what they emit, retype or push obeys the tables (`cOkCh`).  A lemma for every function of `Lex/*.lean` (small helpers are unfolded in their callers) says that
it performs only such `Ordinary` primitives, plus the special ones named in its hypotheses.  The lemmas are stated
for an arbitrary set `φ` of admitted primitives that contains the ordinary ones, so that a caller that admits more
can use them as they stand; `ChanFns`, `ErrOrdFns`, `SortedFns` and `CoverOpen` instantiate `φ`.
-/
namespace SasLexer
open P Prog

def Op.special : Op → Bool
  | .emitPrepared | .emitTokenAtMark _ _ _ | .emitEofAtCursor | .rollback => true
  | _ => false

def Ordinary (sep : Bool) (o : Op) : Prop := cOkCh sep o ∧ o.special = false

variable {cfg : Cfg} {φ : Op → Prop} {ρ : (o : Op) → Resp o → Prop}

theorem Prog.Sat.ordinary {o : Op} (hφ : ∀ o, Ordinary cfg.macroSep o → φ o) (hc : cOkCh cfg.macroSep o)
    (hs : o.special = false) : Uses φ ρ (Prog.perform o) :=
  Sat.perform (hφ o ⟨hc, hs⟩)

section helpers
variable (hφ : ∀ o, Ordinary cfg.macroSep o → φ o)
include hφ
theorem Prog.Sat.peek : Uses φ ρ P.peek := Sat.seq (Sat.ordinary hφ trivial rfl) fun _ => Sat.pure trivial
theorem Prog.Sat.peekNext : Uses φ ρ P.peekNext := Sat.seq (Sat.ordinary hφ trivial rfl) fun _ => Sat.pure trivial
theorem Prog.Sat.advance_ : Uses φ ρ P.advance_ := Sat.seq (Sat.ordinary hφ trivial rfl) fun _ => Sat.pure trivial
theorem Prog.Sat.peekIs {c : Char} : Uses φ ρ (P.peekIs c) := Sat.seq (Sat.peek hφ) fun _ => Sat.pure trivial
theorem Prog.Sat.lastTokTy : Uses φ ρ P.lastTokTy := Sat.seq (Sat.ordinary hφ trivial rfl) fun _ => Sat.pure trivial
theorem Prog.Sat.dbg {c : Prog Bool} {m : String} (hc : Uses φ ρ c) : Uses φ ρ (P.dbg cfg c m) := by
  unfold P.dbg
  exact Sat.ite (fun _ => Sat.seq hc fun _ => Sat.ordinary hφ trivial rfl) fun _ => Sat.pure trivial
end helpers

/-- `footprint hφ [callee lemmas]` walks a program by the rules of `Sat`, matched syntactically: a callee by its
lemma, a helper of `Lex/Helpers.lean` by its rule above, an ordinary primitive by `Sat.ordinary` (the table side
condition by evaluation, or left to the caller); a `match`, or an `if` that `Sat.ite` does not fit, is split and a `do`
join point unfolded, but only while the goal is a `Sat` goal (`show`), not in a side condition. -/
syntax "footprint" term:max "[" term,* "]" : tactic
macro_rules
  | `(tactic| footprint $h [$ls,*]) => `(tactic| repeat' (first
      | with_reducible (first
        | (first $[| apply $ls]*)
        | refine Sat.seq ?_ fun _ => ?_
        | refine Sat.ite (fun _ => ?_) fun _ => ?_
        | exact Sat.pure trivial
        | refine Sat.dbg $h ?_
        | apply Sat.peek $h | apply Sat.peekNext $h | apply Sat.advance_ $h | apply Sat.peekIs $h
        | apply Sat.lastTokTy $h)
      | exact Sat.ordinary $h trivial rfl
      | exact Sat.ordinary $h rfl rfl
      | exact Sat.ordinary $h ⟨rfl, rfl⟩ rfl
      | refine Sat.ordinary $h ?_ rfl
      | (show Sat _ _ _ _; split)
      | (show Sat _ _ _ _; dsimp only)))

variable (hφ : ∀ o, Ordinary cfg.macroSep o → φ o)
include hφ
variable {c : Char} {nc : Option Char} {a b t l sd mm fn : Bool} {flags pnl : Nat} {loc : Int} {ty : TokenType} {ch : Channel}
  {e r : List Char} {n : Option TokenType} {err : Option ErrorKind} {m : Mode}

/-! ## `Lex/Common.lean` -/

theorem fuelOfRest_fp : Uses φ ρ fuelOfRest := by
  unfold fuelOfRest; footprint hφ []

theorem lexWsLoop_fp (f : Nat) : Uses φ ρ (lexWsLoop f) := by
  induction f with
  | zero => unfold lexWsLoop; footprint hφ []
  | succ f ih => unfold lexWsLoop; footprint hφ [ih]

theorem lexWs_fp : Uses φ ρ (lexWs cfg) := by
  unfold lexWs; footprint hφ [fuelOfRest_fp hφ, lexWsLoop_fp hφ]

theorem lexCStyleLoop_fp (f : Nat) : Uses φ ρ (lexCStyleLoop f) := by
  induction f with
  | zero => unfold lexCStyleLoop; footprint hφ []
  | succ f ih => unfold lexCStyleLoop; footprint hφ [ih]

theorem lexCStyleComment_fp : Uses φ ρ (lexCStyleComment cfg) := by
  unfold lexCStyleComment; footprint hφ [fuelOfRest_fp hφ, lexCStyleLoop_fp hφ]

theorem lexStringExpressionStart_fp : Uses φ ρ (lexStringExpressionStart cfg b) := by
  unfold lexStringExpressionStart; footprint hφ []

theorem resolveStringLiteralEnding_fp : Sat φ ρ resolveStringLiteralEnding litTy := by
  unfold resolveStringLiteralEnding
  refine Sat.bind (Q := litTy) ?_ fun ty hty => ?_
  · footprint hφ []
    all_goals (apply Sat.pure; simp [litTy])
  · footprint hφ []
    all_goals exact Sat.pure hty


theorem lexSingleQuotedLoop_fp (f : Nat) : Uses φ ρ (lexSingleQuotedLoop f) := by
  induction f with
  | zero => unfold lexSingleQuotedLoop; footprint hφ []
  | succ f ih => unfold lexSingleQuotedLoop; footprint hφ [ih]

theorem lexSingleQuotedStr_fp : Uses φ ρ (lexSingleQuotedStr cfg) := by
  unfold lexSingleQuotedStr
  footprint hφ [fuelOfRest_fp hφ, lexSingleQuotedLoop_fp hφ, Sat.bind (resolveStringLiteralEnding_fp hφ) fun _ _ => ?_]
  all_goals exact tokOK_mono (litTy.plain ‹_›)

theorem emitResolveOps_fp : ∀ ks, Uses φ ρ (emitResolveOps ks)
  | [] => by unfold emitResolveOps; footprint hφ []
  | k :: ks => by unfold emitResolveOps; footprint hφ [emitResolveOps_fp ks]

theorem lexMacroVarExprLoop_fp : ∀ (f : Nat) (st : List Nat), Uses φ ρ (lexMacroVarExprLoop f st)
  | _, [] => by unfold lexMacroVarExprLoop; footprint hφ []
  | 0, _ :: _ => by unfold lexMacroVarExprLoop; footprint hφ []
  | f + 1, _ :: _ => by unfold lexMacroVarExprLoop; footprint hφ [emitResolveOps_fp hφ, lexMacroVarExprLoop_fp f]

theorem lexMacroVarExpr_fp : Uses φ ρ (lexMacroVarExpr cfg) := by
  unfold lexMacroVarExpr
  footprint hφ [emitResolveOps_fp hφ, fuelOfRest_fp hφ, lexMacroVarExprLoop_fp hφ]

theorem lexMacroCommentLoop_fp (f : Nat) : ∀ q, Uses φ ρ (lexMacroCommentLoop f q) := by
  induction f with
  | zero => intro q; unfold lexMacroCommentLoop; footprint hφ []
  | succ f ih => intro q; unfold lexMacroCommentLoop; footprint hφ [ih]

theorem lexMacroComment_fp : Uses φ ρ (lexMacroComment cfg) := by
  unfold lexMacroComment; footprint hφ [fuelOfRest_fp hφ, lexMacroCommentLoop_fp hφ]

theorem lexNumericLiteral_fp : Uses φ ρ (lexNumericLiteral cfg sd) := by
  unfold lexNumericLiteral
  footprint hφ []
  all_goals exact tokOK_mono (numericChoice_plain ‹_›)

theorem lexCharFormat_fp : Uses φ ρ lexCharFormat := by
  unfold lexCharFormat; footprint hφ []

theorem predictedOpenLoop_fp (f : Nat) : Uses φ ρ (predictedOpenLoop f) := by
  induction f with
  | zero => unfold predictedOpenLoop; footprint hφ []
  | succ f ih => unfold predictedOpenLoop; footprint hφ [ih]

theorem predictedMacroLoop_fp (hr : φ .rollback) (f : Nat) : Uses φ ρ (predictedMacroLoop f) := by
  induction f with
  | zero => unfold predictedMacroLoop; footprint hφ []
  | succ f ih => unfold predictedMacroLoop; footprint hφ [ih, Sat.perform hr]

theorem lexPredictedComment_fp (hr : φ .rollback) : Uses φ ρ lexPredictedComment := by
  unfold lexPredictedComment
  footprint hφ [fuelOfRest_fp hφ, predictedOpenLoop_fp hφ, predictedMacroLoop_fp hφ hr]

theorem lexExpectedToken_fp (he : φ (.emitToken ch ty .none)) : Uses φ ρ (lexExpectedToken cfg nc ty ch) := by
  unfold lexExpectedToken
  footprint hφ [show Uses φ ρ (emit ch ty) from Sat.perform he]


/-! ## `Lex/MacroCall.lean` -/

theorem macroCallOrStatPreload_fp : Uses φ ρ (macroCallOrStatPreload ty b) := by
  unfold macroCallOrStatPreload maybeExpectMacroCallArgsOrLabel expectMacroStrCallArgs
    expectEvalCallArgs expectScanOrSubstrCallArgs expectBuiltinMacroCallArgs expectBuiltinMacroCallOneArgMasking
    expectBuiltinMacroCallNamedArgs expectSysfuncMacroCallArgs expectMacroUntilWhileStatArgs expectMacroLetStat
    expectMacroNameThenOpts expectSyscallCallAndArgs
  footprint hφ []

theorem maybeEmitMacroSepBeforeKw_fp (hs : cfg.macroSep = true) : Uses φ ρ (maybeEmitMacroSepBeforeKw ty) := by
  unfold maybeEmitMacroSepBeforeKw; footprint hφ []
  all_goals (rw [hs]; rfl)

theorem dispatchMacroCallOrStat_fp (hty : tokOK false (kwChan ty) ty .none = true) :
    Uses φ ρ (dispatchMacroCallOrStat cfg ty b) := by
  unfold dispatchMacroCallOrStat
  footprint hφ [maybeEmitMacroSepBeforeKw_fp hφ, macroCallOrStatPreload_fp hφ]
  all_goals first | exact tokOK_mono hty | assumption

theorem lexMacroCall_fp : Uses φ ρ (lexMacroCall cfg a b) := by
  unfold lexMacroCall
  footprint hφ [dispatchMacroCallOrStat_fp hφ,
    Sat.bind (Q := fun x : TokenType × Nat => tokOK false (kwChan x.1) x.1 .none = true) ?_ fun _ _ => ?_]
  all_goals first | exact Sat.pure (lexMacroCallStatOrLabel_chan ‹_›) | exact Sat.pure rfl | assumption

theorem lexMacroIdentifier_fp : Uses φ ρ (lexMacroIdentifier cfg b) := by
  unfold lexMacroIdentifier
  footprint hφ [dispatchMacroCallOrStat_fp hφ, Sat.bind (Q := fun t : TokenType => tokOK false (kwChan t) t .none = true) ?_ fun _ _ => ?_]
  all_goals first | exact Sat.pure (lexMacroCallStatOrLabel_chan ‹_›) | exact Sat.pure rfl | assumption

theorem dispatchMacroDo_fp : Uses φ ρ (dispatchMacroDo cfg c) := by
  unfold dispatchMacroDo
  footprint hφ [lexMacroIdentifier_fp hφ]

theorem dispatchMacroLocalGlobal_fp : Uses φ ρ (dispatchMacroLocalGlobal cfg c l) := by
  unfold dispatchMacroLocalGlobal expectMacroLetStat
  footprint hφ []


/-! ## `Lex/Open.lean` -/

theorem datalinesToSemiLoop_fp (f : Nat) : Uses φ ρ (datalinesToSemiLoop f) := by
  induction f with
  | zero => unfold datalinesToSemiLoop; footprint hφ []
  | succ f ih => unfold datalinesToSemiLoop; footprint hφ [ih]

theorem datalinesBodyLoop_fp (f : Nat) : Uses φ ρ (datalinesBodyLoop e f) := by
  induction f with
  | zero => unfold datalinesBodyLoop; footprint hφ []
  | succ f ih => unfold datalinesBodyLoop; footprint hφ [ih]

theorem lexDatalines_fp : Uses φ ρ (lexDatalines cfg b) := by
  unfold lexDatalines
  footprint hφ [fuelOfRest_fp hφ, datalinesToSemiLoop_fp hφ, datalinesBodyLoop_fp hφ]

theorem lexIdentifier_fp : Uses φ ρ (lexIdentifier cfg) := by
  unfold lexIdentifier
  footprint hφ [lexDatalines_fp hφ]
  all_goals exact tokOK_mono (keywords_plain _ (lookup_mem ‹_›))

theorem lexSymbols_fp (hr : φ .rollback) : Uses φ ρ (lexSymbols cfg c) := by
  unfold lexSymbols
  footprint hφ [lexPredictedComment_fp hφ hr, lexNumericLiteral_fp hφ, lexCharFormat_fp hφ]

theorem dispatchModeDefault_fp (hr : φ .rollback) : Uses φ ρ (dispatchModeDefault cfg c) := by
  unfold dispatchModeDefault
  footprint hφ [lexWs_fp hφ, lexSingleQuotedStr_fp hφ, lexStringExpressionStart_fp hφ, lexCStyleComment_fp hφ,
    lexMacroVarExpr_fp hφ, lexMacroComment_fp hφ, lexMacroIdentifier_fp hφ, lexNumericLiteral_fp hφ, lexIdentifier_fp hφ,
    lexSymbols_fp hφ hr]

theorem handleUnterminatedStrExpr_fp : Uses φ ρ (handleUnterminatedStrExpr cfg) := by
  unfold handleUnterminatedStrExpr lastTokIsStart; footprint hφ []

theorem lexDoubleQuotedLiteral_fp : Uses φ ρ (lexDoubleQuotedLiteral cfg) := by
  unfold lexDoubleQuotedLiteral
  footprint hφ [Sat.bind (resolveStringLiteralEnding_fp hφ) fun _ _ => ?_]
  all_goals exact tokOK_mono (litTy.plain ‹_›)

theorem lexStrExprTextLoop_fp (f : Nat) : Uses φ ρ (lexStrExprTextLoop cfg f) := by
  induction f with
  | zero => unfold lexStrExprTextLoop; footprint hφ []
  | succ f ih => unfold lexStrExprTextLoop lastTokIsStart; footprint hφ [ih, lexDoubleQuotedLiteral_fp hφ]

theorem lexStrExprText_fp : Uses φ ρ (lexStrExprText cfg) := by
  unfold lexStrExprText
  footprint hφ [fuelOfRest_fp hφ, lexStrExprTextLoop_fp hφ, handleUnterminatedStrExpr_fp hφ]

theorem dispatchModeStrExpr_fp (hp : φ .emitPrepared) : Uses φ ρ (dispatchModeStrExpr cfg c b) := by
  unfold dispatchModeStrExpr lastTokIsStart
  footprint hφ [lexStrExprText_fp hφ, lexDoubleQuotedLiteral_fp hφ, lexMacroVarExpr_fp hφ, lexMacroIdentifier_fp hφ,
    Sat.perform hp]
  all_goals exact tokOK_mono (strExprEndType_plain _ _)


/-! ## `Lex/MacroEval.lean` -/

theorem maybeEmitEmptyMacroStringInEval_fp : Uses φ ρ (maybeEmitEmptyMacroStringInEval n) := by
  unfold maybeEmitEmptyMacroStringInEval; footprint hφ []

theorem updateParensNesting_fp : Uses φ ρ (updateParensNesting cfg b) := by
  unfold updateParensNesting
  footprint hφ []
  all_goals (intro m hm; cases m <;> first | trivial | exact hm)

theorem evalOperatorSel_fp :
    Sat φ ρ (evalOperatorSel cfg c r) fun x => ∀ ty n, x = some (ty, n) → plainTy ty = true := by
  unfold evalOperatorSel
  footprint hφ [updateParensNesting_fp hφ]
  all_goals (apply Sat.pure; intro ty n hx; first
    | (simp only [Option.some.injEq, Prod.mk.injEq] at hx; obtain ⟨rfl, _⟩ := hx; first | rfl | exact isMacroEvalMnemonic_plain ‹_›)
    | (simp at hx))

theorem lexMacroEvalOperator_fp : Uses φ ρ (lexMacroEvalOperator cfg c) := by
  unfold lexMacroEvalOperator
  footprint hφ [Sat.bind (evalOperatorSel_fp hφ) fun _ _ => ?_, maybeEmitEmptyMacroStringInEval_fp hφ]
  all_goals exact tokOK_mono (‹∀ ty n, _ = some (ty, n) → plainTy ty = true› _ _ rfl)

theorem lexMacroStringInMacroEvalContextLoop_fp (f : Nat) :
    ∀ a b, Uses φ ρ (lexMacroStringInMacroEvalContextLoop flags t f a b) := by
  induction f with
  | zero => intro a b; unfold lexMacroStringInMacroEvalContextLoop; footprint hφ []
  | succ f ih => intro a b; unfold lexMacroStringInMacroEvalContextLoop; footprint hφ [ih]

theorem lexMacroStringInMacroEvalContext_fp (hm : φ (.emitTokenAtMark .HIDDEN .WS .none)) :
    Uses φ ρ (lexMacroStringInMacroEvalContext cfg flags t) := by
  unfold lexMacroStringInMacroEvalContext
  footprint hφ [fuelOfRest_fp hφ, lexMacroStringInMacroEvalContextLoop_fp hφ, Sat.perform hm]
  all_goals first | exact tokOK_mono (tryParseHexInteger_plain ‹_›) | exact tokOK_mono (tryParseDecimal_plain ‹_›)

theorem dispatchModeMacroEval_fp (hm : φ (.emitTokenAtMark .HIDDEN .WS .none)) :
    Uses φ ρ (dispatchModeMacroEval cfg c flags pnl) := by
  unfold dispatchModeMacroEval
  footprint hφ [lexSingleQuotedStr_fp hφ, lexStringExpressionStart_fp hφ, lexCStyleComment_fp hφ, lexMacroVarExpr_fp hφ,
    lexMacroCall_fp hφ, maybeEmitEmptyMacroStringInEval_fp hφ, lexMacroEvalOperator_fp hφ,
    lexMacroStringInMacroEvalContext_fp hφ hm]


theorem dispatchMacroNameExpr_fp : Uses φ ρ (dispatchMacroNameExpr cfg c fn err) := by
  unfold dispatchMacroNameExpr
  footprint hφ [lexCStyleComment_fp hφ, lexMacroVarExpr_fp hφ, lexMacroCall_fp hφ]
  all_goals (intro m m' _ h; cases m <;> cases h <;> trivial)

theorem lexMacroStringUnrestrictedLoop_fp (f : Nat) : Uses φ ρ (lexMacroStringUnrestrictedLoop f) := by
  induction f with
  | zero => unfold lexMacroStringUnrestrictedLoop; footprint hφ []
  | succ f ih => unfold lexMacroStringUnrestrictedLoop; footprint hφ [ih]

theorem lexMacroStringUnrestricted_fp : Uses φ ρ (lexMacroStringUnrestricted cfg) := by
  unfold lexMacroStringUnrestricted
  footprint hφ [fuelOfRest_fp hφ, lexMacroStringUnrestrictedLoop_fp hφ]

theorem dispatchMacroSemiTermTextExpr_fp : Uses φ ρ (dispatchMacroSemiTermTextExpr cfg c) := by
  unfold dispatchMacroSemiTermTextExpr
  footprint hφ [lexSingleQuotedStr_fp hφ, lexStringExpressionStart_fp hφ, lexCStyleComment_fp hφ, lexMacroVarExpr_fp hφ, lexMacroCall_fp hφ, lexMacroStringUnrestricted_fp hφ]

theorem lexMacroStringStatOptsLoop_fp (f : Nat) : Uses φ ρ (lexMacroStringStatOptsLoop f) := by
  induction f with
  | zero => unfold lexMacroStringStatOptsLoop; footprint hφ []
  | succ f ih => unfold lexMacroStringStatOptsLoop; footprint hφ [ih]

theorem lexMacroStringStatOpts_fp : Uses φ ρ (lexMacroStringStatOpts cfg) := by
  unfold lexMacroStringStatOpts
  footprint hφ [fuelOfRest_fp hφ, lexMacroStringStatOptsLoop_fp hφ]

theorem dispatchMacroStatOptsTextExpr_fp : Uses φ ρ (dispatchMacroStatOptsTextExpr cfg c) := by
  unfold dispatchMacroStatOptsTextExpr
  footprint hφ [lexSingleQuotedStr_fp hφ, lexStringExpressionStart_fp hφ, lexCStyleComment_fp hφ, lexMacroVarExpr_fp hφ, lexMacroCall_fp hφ, lexMacroStringStatOpts_fp hφ, lexWs_fp hφ]


/-! ## `Lex/MacroArgs.lean` -/

theorem populateNextArgStack_fp : Uses φ ρ (populateNextArgStack flags) := by
  unfold populateNextArgStack; footprint hφ []
  exact nextArgModeOf_ok _

theorem lexMaybeMacroCallArgsOrLabel_fp (hr : φ .rollback) : Uses φ ρ (lexMaybeMacroCallArgsOrLabel cfg c b) := by
  unfold lexMaybeMacroCallArgsOrLabel; footprint hφ [Sat.perform hr]

theorem lexMaybeMacroCallArgAssign_fp (hr : φ .rollback) : Uses φ ρ (lexMaybeMacroCallArgAssign cfg c flags) := by
  unfold lexMaybeMacroCallArgAssign; footprint hφ [Sat.perform hr]

theorem lexMaybeTailMacroCallArgValue_fp : Uses φ ρ (lexMaybeTailMacroCallArgValue cfg c) := by
  unfold lexMaybeTailMacroCallArgValue; footprint hφ []

theorem dispatchMacroCallArgOrValue_fp (hr : φ .rollback) : Uses φ ρ (dispatchMacroCallArgOrValue cfg c flags) := by
  unfold dispatchMacroCallArgOrValue pushCheckAssign switchToValueMode safePopMode
  footprint hφ [lexMacroVarExpr_fp hφ, lexMacroComment_fp hφ, lexMacroIdentifier_fp hφ, populateNextArgStack_fp hφ,
    Sat.perform hr]

theorem emitTokenUpdateNestingArg_fp : Uses φ ρ (emitTokenUpdateNestingArg pnl loc) := by
  unfold emitTokenUpdateNestingArg; footprint hφ []
  all_goals (intro m hm; cases m <;> first | trivial | exact hm)

theorem lexMacroStringInMacroCallArgValueLoop_fp (f : Nat) :
    ∀ loc, Uses φ ρ (lexMacroStringInMacroCallArgValueLoop flags pnl f loc) := by
  induction f with
  | zero => intro loc; unfold lexMacroStringInMacroCallArgValueLoop; footprint hφ []
  | succ f ih =>
    intro loc; unfold lexMacroStringInMacroCallArgValueLoop
    footprint hφ [ih, emitTokenUpdateNestingArg_fp hφ, populateNextArgStack_fp hφ]

theorem lexMacroStringInMacroCallArgValue_fp : Uses φ ρ (lexMacroStringInMacroCallArgValue cfg flags pnl) := by
  unfold lexMacroStringInMacroCallArgValue
  footprint hφ [fuelOfRest_fp hφ, lexMacroStringInMacroCallArgValueLoop_fp hφ]

theorem dispatchMacroCallArgValue_fp : Uses φ ρ (dispatchMacroCallArgValue cfg c flags pnl) := by
  unfold dispatchMacroCallArgValue
  footprint hφ [lexSingleQuotedStr_fp hφ, lexStringExpressionStart_fp hφ, lexCStyleComment_fp hφ, lexMacroVarExpr_fp hφ, lexMacroComment_fp hφ, lexMacroIdentifier_fp hφ, lexMacroStringInMacroCallArgValue_fp hφ, populateNextArgStack_fp hφ]

theorem lexMaybeMacroDefArgs_fp : Uses φ ρ (lexMaybeMacroDefArgs cfg c) := by
  unfold lexMaybeMacroDefArgs; footprint hφ []

theorem lexMacroDefIdentifier_fp : Uses φ ρ (lexMacroDefIdentifier cfg c b) := by
  unfold lexMacroDefIdentifier; footprint hφ []

theorem dispatchMacroDefArg_fp : Uses φ ρ (dispatchMacroDefArg cfg c) := by
  unfold dispatchMacroDefArg; footprint hφ [lexMacroDefIdentifier_fp hφ]

theorem lexMacroDefNextArgOrDefaultValue_fp : Uses φ ρ (lexMacroDefNextArgOrDefaultValue cfg c) := by
  unfold lexMacroDefNextArgOrDefaultValue; footprint hφ []

theorem emitTokenUpdateNestingStr_fp : Uses φ ρ (emitTokenUpdateNestingStr pnl loc) := by
  unfold emitTokenUpdateNestingStr; footprint hφ []
  all_goals (intro m hm; cases m <;> first | trivial | exact hm)

theorem lexMacroStringInStrCallLoop_fp (f : Nat) : ∀ loc, Uses φ ρ (lexMacroStringInStrCallLoop mm pnl f loc) := by
  induction f with
  | zero => intro loc; unfold lexMacroStringInStrCallLoop; footprint hφ []
  | succ f ih => intro loc; unfold lexMacroStringInStrCallLoop; footprint hφ [ih, emitTokenUpdateNestingStr_fp hφ]

theorem lexMacroStringInStrCall_fp : Uses φ ρ (lexMacroStringInStrCall cfg mm pnl) := by
  unfold lexMacroStringInStrCall
  footprint hφ [fuelOfRest_fp hφ, lexMacroStringInStrCallLoop_fp hφ]

theorem dispatchMacroStrQuotedExpr_fp : Uses φ ρ (dispatchMacroStrQuotedExpr cfg c mm pnl) := by
  unfold dispatchMacroStrQuotedExpr
  footprint hφ [lexSingleQuotedStr_fp hφ, lexStringExpressionStart_fp hφ, lexCStyleComment_fp hφ, lexMacroVarExpr_fp hφ, lexMacroIdentifier_fp hφ, lexMacroStringInStrCall_fp hφ]

/-! ## `Lex/MacroModes.lean`, `Lex/Main.lean` -/

theorem dispatchMacroMode_fp (hr : φ .rollback) (hm : φ (.emitTokenAtMark .HIDDEN .WS .none)) :
    Uses φ ρ (dispatchMacroMode cfg c m) := by
  cases m <;> simp only [dispatchMacroMode]
  case macroEval => exact dispatchModeMacroEval_fp hφ hm
  case macroStrQuotedExpr => exact dispatchMacroStrQuotedExpr_fp hφ
  case maybeMacroCallArgsOrLabel => exact lexMaybeMacroCallArgsOrLabel_fp hφ hr
  case maybeMacroCallArgAssign => exact lexMaybeMacroCallArgAssign_fp hφ hr
  case maybeTailMacroArgValue => exact lexMaybeTailMacroCallArgValue_fp hφ
  case macroCallArgOrValue => exact dispatchMacroCallArgOrValue_fp hφ hr
  case macroCallValue => exact dispatchMacroCallArgValue_fp hφ
  case maybeMacroDefArgs => exact lexMaybeMacroDefArgs_fp hφ
  case macroDefArg => exact dispatchMacroDefArg_fp hφ
  case macroDefNextArgOrDefaultValue => exact lexMacroDefNextArgOrDefaultValue_fp hφ
  case macroDo => exact dispatchMacroDo_fp hφ
  case macroLocalGlobal => exact dispatchMacroLocalGlobal_fp hφ
  case macroNameExpr => exact dispatchMacroNameExpr_fp hφ
  case macroSemiTerminatedTextExpr => exact dispatchMacroSemiTermTextExpr_fp hφ
  case macroStatOptionsTextExpr => exact dispatchMacroStatOptsTextExpr_fp hφ
  all_goals footprint hφ [lexMacroDefIdentifier_fp hφ]

/-- `hρ`: an `ExpectSymbol(ty, ch)` read from the mode stack names a token that may be emitted -/
theorem lexToken_fp (hr : φ .rollback) (hm : φ (.emitTokenAtMark .HIDDEN .WS .none)) (hp : φ .emitPrepared)
    (hρ : ∀ ty ch, ρ .mode (.expectSymbol ty ch) → φ (.emitToken ch ty .none)) : Uses φ ρ (lexToken cfg c) := by
  unfold lexToken P.mode
  refine Sat.bind (Sat.perform_resp (hφ _ ⟨trivial, rfl⟩)) fun m hmode => ?_
  footprint hφ [lexCStyleComment_fp hφ, lexWs_fp hφ, dispatchModeDefault_fp hφ hr, lexExpectedToken_fp hφ (hρ _ _ hmode),
    dispatchModeStrExpr_fp hφ hp, dispatchMacroMode_fp hφ hr hm]

theorem rparens_fp : Uses φ ρ (forIn [:pnl] PUnit.unit fun (_ : Nat) (_ : PUnit) => do
    P.emitD .RPAREN
    pure (ForInStep.yield PUnit.unit)) := by
  rw [Std.Legacy.Range.forIn_eq_forIn_range']
  exact Sat.forIn fun _ _ => by footprint hφ []

theorem finalizeMode_fp (he : ∀ ty ch, m = .expectSymbol ty ch → φ (.emitToken ch ty .none)) :
    Uses φ ρ (finalizeMode cfg m) := by
  unfold finalizeMode
  footprint hφ [lexExpectedToken_fp hφ (he _ _ rfl), handleUnterminatedStrExpr_fp hφ, rparens_fp hφ]

theorem finalizeLoop_fp (hρ : ∀ ty ch, ρ .popModeRaw (some (.expectSymbol ty ch)) → φ (.emitToken ch ty .none)) (f : Nat) :
    Uses φ ρ (finalizeLoop cfg f) := by
  induction f with
  | zero => unfold finalizeLoop; footprint hφ []
  | succ f ih =>
    unfold finalizeLoop
    refine Sat.bind (Sat.perform_resp (hφ _ ⟨trivial, rfl⟩)) fun m hm => ?_
    footprint hφ [ih, finalizeMode_fp hφ fun ty ch h => hρ ty ch (h ▸ hm)]

theorem finalizeLexing_fp (hρ : ∀ ty ch, ρ .popModeRaw (some (.expectSymbol ty ch)) → φ (.emitToken ch ty .none))
    (he : φ .emitEofAtCursor) : Uses φ ρ (finalizeLexing cfg) := by
  unfold finalizeLexing
  footprint hφ [finalizeLoop_fp hφ hρ, Sat.perform he]

theorem mainLoop_fp (hr : φ .rollback) (hm : φ (.emitTokenAtMark .HIDDEN .WS .none)) (hp : φ .emitPrepared)
    (hρ : ∀ ty ch, ρ .mode (.expectSymbol ty ch) → φ (.emitToken ch ty .none)) (f : Nat) :
    ∀ n last, Uses φ ρ (mainLoop cfg f n last) := by
  induction f with
  | zero => intro n last; unfold mainLoop; footprint hφ []
  | succ f ih => intro n last; unfold mainLoop; footprint hφ [ih, lexToken_fp hφ hr hm hp hρ]

end SasLexer
