import SasLexer.Proofs.Kernel.RunInd
import SasLexer.Proofs.Kernel.Fields
/-!
# What finalisation emits: a deterministic abstract semantics (`fwp`)

Abstract state: the projection of the lexer state that finalisation can influence and that the dump shows —
`(type, channel, byte)` of every token (newest first), the error kinds (newest first), the mode stack, the byte of
the pending token start and of the cursor.  Only the operations that occur in `finalize_lexing` are supported (any
other makes `fwp` false); their effect on the projection is a function of the projection (`fNext`), their response
either determined by it or — for reads of the text — universally quantified.

`fwp_sound`: a run of a program with `fwp p Q (FS.of L)` that returns ends in a state whose projection satisfies `Q`.
-/
namespace SasLexer

structure FS where
  toks : List (TokenType × Channel × Nat)
  errs : List ErrorKind
  modes : List Mode
  tokByte : Nat
  cur : Nat

def FS.of (L : Lexer) : FS :=
  { toks := L.toksR.map fun t => (t.ty, t.chan, t.byte), errs := L.errsR.map (·.kind), modes := L.modesR,
    tokByte := L.tok.byte, cur := L.curByte }

/-- `none`: not supported; `some (r, σ')`: new projection, and the response when the projection determines it -/
def fNext : (o : Op) → FS → Option (Option (Resp o) × FS)
  | .rest, σ => some (none, σ)
  | .lastTok, σ => some (some (σ.toks.head?.map fun t => (t.1, t.2.1)), σ)
  | .modeDepth, σ => some (some σ.modes.length, σ)
  | .startToken, σ => some (some (), { σ with tokByte := σ.cur })
  | .emitToken ch ty _, σ => some (some (), { σ with toks := (ty, ch, σ.tokByte) :: σ.toks })
  | .updateLastToken ch ty _, σ =>
    match σ.toks with
    | t :: ts => some (some (), { σ with toks := (ty, ch, t.2.2) :: ts })
    | [] => some (some (), { σ with errs := .InternalErrorNoTokenToReplace :: σ.errs, toks := [(ty, ch, σ.tokByte)] })
  | .emitError e, σ => some (some (), { σ with errs := e :: σ.errs })
  | .pushMode m, σ => some (some (), { σ with modes := m :: σ.modes })
  | .popMode, σ =>
    match σ.modes with
    | _ :: ms => some (some (), { σ with modes := ms })
    | [] => some (some (), { σ with errs := .InternalErrorEmptyModeStack :: σ.errs, modes := [.default] })
  | .mode, σ =>
    match σ.modes with
    | m :: _ => some (some m, σ)
    | [] => some (some .default, { σ with errs := .InternalErrorEmptyModeStack :: σ.errs, modes := [.default] })
  | .popModeRaw, σ =>
    match σ.modes with
    | m :: ms => some (some (some m), { σ with modes := ms })
    | [] => some (some none, σ)
  | .payClear, σ => some (some (), σ)
  | .dassert _ _, σ => some (some (), σ)
  | .emitEofAtCursor, σ => some (some (), { σ with toks := (.EOF, .DEFAULT, σ.cur) :: σ.toks })
  | _, _ => none

def fwp {α : Type} : Prog α → (α → FS → Prop) → FS → Prop
  | .ret a, Q, σ => Q a σ
  | .op (.panic _) _, _, _ => True
  | .op o k, Q, σ =>
    match fNext o σ with
    | none => False
    | some (some r, σ') => fwp (k r) Q σ'
    | some (none, σ') => ∀ r, fwp (k r) Q σ'

namespace fwp
variable {α β : Type}

theorem op_iff {o : Op} {k : Resp o → Prog α} {Q : α → FS → Prop} {σ : FS} (ho : ∀ m, o ≠ .panic m) :
    fwp (Prog.op o k) Q σ ↔
      match fNext o σ with
      | none => False
      | some (some r, σ') => fwp (k r) Q σ'
      | some (none, σ') => ∀ r, fwp (k r) Q σ' := by
  cases o <;> first | exact Iff.rfl | exact absurd rfl (ho _) | (simp only [fwp])

theorem mono {p : Prog α} {Q Q' : α → FS → Prop} (hQ : ∀ a σ, Q a σ → Q' a σ) : ∀ {σ}, fwp p Q σ → fwp p Q' σ := by
  induction p with
  | ret a => intro σ h; exact hQ _ _ h
  | op o k ih =>
    intro σ h
    rcases Op.panic_cases o with ⟨m, rfl⟩ | ho'
    · trivial
    · rw [op_iff ho'] at h ⊢
      split at h
      · exact h.elim
      · exact ih _ h
      · exact fun r => ih r (h r)

theorem bind_iff {p : Prog α} {f : α → Prog β} {Q : β → FS → Prop} :
    ∀ {σ}, fwp (p >>= f) Q σ ↔ fwp p (fun a σ' => fwp (f a) Q σ') σ := by
  induction p with
  | ret a => intro σ; exact Iff.rfl
  | op o k ih =>
    intro σ
    rcases Op.panic_cases o with ⟨m, rfl⟩ | ho'
    · exact Iff.rfl
    · show fwp (Prog.op o fun r => k r >>= f) Q σ ↔ _
      rw [op_iff ho', op_iff ho']
      split
      · exact Iff.rfl
      · exact ih _
      · exact forall_congr' fun r => ih r

@[simp] theorem pure_iff {a : α} {Q : α → FS → Prop} {σ} : fwp (pure a : Prog α) Q σ ↔ Q a σ := Iff.rfl
@[simp] theorem ret_iff {a : α} {Q : α → FS → Prop} {σ} : fwp (Prog.ret a) Q σ ↔ Q a σ := Iff.rfl

theorem ite_iff {c : Prop} [Decidable c] {p q : Prog α} {Q : α → FS → Prop} {σ} :
    fwp (if c then p else q) Q σ ↔ if c then fwp p Q σ else fwp q Q σ := by
  split <;> rfl

end fwp

/-- symbolic evaluation of `fwp`: every primitive is looked up in `fNext` -/
macro "fwp_eval" : tactic =>
  `(tactic| simp only [fwp.bind_iff, fwp.pure_iff, fwp.ret_iff, fwp.ite_iff, fwp, fNext, Prog.perform])

theorem step_FS (cfg : Cfg) (o : Op) (L : Lexer) :
    match fNext o (FS.of L) with
    | none => True
    | some (ro, σ') => FS.of (step cfg o L).2 = σ' ∧ ∀ r, ro = some r → (step cfg o L).1 = r := by
  cases o
  case rest => exact ⟨rfl, nofun⟩
  case lastTok => refine ⟨rfl, fun r h => ?_⟩; cases h; simp only [step, FS.of]; cases L.toksR <;> rfl
  case modeDepth => exact ⟨rfl, fun r h => by cases h; rfl⟩
  case emitToken | emitError | pushMode | payClear | dassert => exact ⟨rfl, fun _ _ => rfl⟩
  case startToken | emitEofAtCursor => exact ⟨by simp only [step, Lexer.startToken, FS.of, Lexer.curByte, fld, lastLineOrAdd_toksR, List.map_cons], fun _ _ => rfl⟩
  case updateLastToken ch ty p =>
    simp only [fNext, FS.of]
    cases hL : L.toksR <;>
      exact ⟨by simp [step, Lexer.updateLastToken, hL, Lexer.curByte, Lexer.prepError, fld], fun _ _ => trivial⟩
  case popMode | mode | popModeRaw =>
    simp only [fNext, FS.of]
    cases hL : L.modesR <;>
      exact ⟨by simp [step, Lexer.popMode, Lexer.mode, hL, Lexer.curByte, Lexer.prepError, fld],
        fun r h => by cases h; simp [step, Lexer.mode, hL]⟩
  -- every other primitive is unsupported: `fNext` is `none`
  all_goals exact trivial

theorem fwp_sound (cfg : Cfg) {α : Type} (p : Prog α) : ∀ (Q : α → FS → Prop) (L : Lexer), fwp p Q (FS.of L) →
    ∀ a, (Prog.run cfg p L).1 = some a → Q a (FS.of (Prog.run cfg p L).2) := by
  intro Q L h a ha
  refine ((run_sound cfg (J := fun _ => True) (W := fun p σ => fwp p Q σ) (Inv := fun σ L => σ = FS.of L)
    (fun _ _ _ => trivial) (fun _ _ h => h) ?_ p _ L h rfl).2 a ha).elim fun σ' hq => hq.2 ▸ hq.1
  rintro o k _ L h rfl
  refine ⟨trivial, fun hp => ?_⟩
  rw [fwp.op_iff fun m hm => panic_panicked cfg m L (hm ▸ hp)] at h
  have hs := step_FS cfg o L
  split at h
  · exact h.elim
  · rename_i r σ' he
    rw [he] at hs
    exact ⟨σ', hs.1.symm, hs.2 r rfl ▸ h⟩
  · rename_i σ' he
    rw [he] at hs
    exact ⟨σ', hs.1.symm, h _⟩

end SasLexer
