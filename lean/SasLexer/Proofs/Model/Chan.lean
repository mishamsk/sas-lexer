import SasLexer.Proofs.Model.Footprint
import SasLexer.Spec.ChanTable
/-!
# The channel table: a state-free discipline (`ChanR`)

`chanOK ch ty` is the context-free reading of C06's channel sentence: comment types are exactly the tokens of the
comment channel; `WS`, `CatchAll` and the `%str/%nrstr` keywords are always hidden; besides them only `COLON` and
the two parentheses may be hidden; everything else is on the default channel.

(Second table, same discipline: `payKindOK` of `Spec/ChanTable.lean` — which kind of payload a type carries.)

`ChanR p Q`: whatever the responses (mode-stack reads restricted to modes that satisfy `modeOK`: an
`ExpectSymbol(ty, ch)` on the stack has `chanOK ch ty`), every token the program emits, retypes or inserts obeys
the table, every mode it pushes satisfies `modeOK`, and every value it returns satisfies `Q`.
-/
namespace SasLexer

/-- the payload an emit site hands over, before the payload register is read: the register holds nothing or a
string payload (`PReg`), so `.reg` is admissible exactly for the string families -/
def paySpecOK (ty : TokenType) : PaySpec → Bool
  | .none => payKindOK ty .none
  | .int v => payKindOK ty (.int v)
  | .float b => payKindOK ty (.float b)
  | .reg => isStrTy ty && payKindOK ty .none

/-- what an emit site owes: channel table, payload-kind table, and — third table — no `MacroSep` unless the build
has the `macro_sep` feature (`sep`) -/
def tokOK (sep : Bool) (ch : Channel) (ty : TokenType) (p : PaySpec) : Bool :=
  chanOK ch ty && paySpecOK ty p && (ty != .MacroSep || sep)

theorem tokOK_mono {sep : Bool} {ch : Channel} {ty : TokenType} {p : PaySpec} (h : tokOK false ch ty p = true) :
    tokOK sep ch ty p = true := by
  simp only [tokOK, Bool.and_eq_true, Bool.or_false] at h ⊢
  exact ⟨h.1, by simp [h.2]⟩

/-- a type that may appear on the default channel without payload -/
def plainTy (ty : TokenType) : Bool := tokOK false .DEFAULT ty .none

/-- retyping keeps the payload: both types must accept the same kinds -/
def sameKinds (e n : TokenType) : Bool :=
  isStrTy e == isStrTy n && isIntTy e == isIntTy n && isFloatTy e == isFloatTy n

def modeOK : Mode → Prop
  | .expectSymbol ty ch => tokOK false ch ty .none = true
  | _ => True

def cOkCh (sep : Bool) : Op → Prop
  | .emitToken ch ty p => tokOK sep ch ty p = true
  | .emitTokenAtMark ch ty p => tokOK sep ch ty p = true
  | .updateLastToken ch ty p => tokOK sep ch ty p = true
  | .retypeLastDefault e n => plainTy n = true ∧ sameKinds e n = true
  | .pushMode m => modeOK m
  | .modifyTop f => ∀ m, modeOK m → modeOK (f m)
  | .modifyAt _ f => ∀ m m', modeOK m → f m = some m' → modeOK m'
  | .insertModeAt _ m => modeOK m
  | _ => True

def respOK : (o : Op) → Resp o → Prop
  | .mode, m => modeOK m
  | .popModeRaw, m => ∀ x, m = some x → modeOK x
  | _, _ => True

def ChanR (sep : Bool) {α : Type} : Prog α → (α → Prop) → Prop
  | .ret a, Q => Q a
  | .op o k, Q => cOkCh sep o ∧ ∀ r, respOK o r → ChanR sep (k r) Q

namespace ChanR
variable {α β : Type} {sep : Bool}

theorem op_iff {o : Op} {k : Resp o → Prog α} {Q : α → Prop} :
    ChanR sep (Prog.op o k) Q ↔ cOkCh sep o ∧ ∀ r, respOK o r → ChanR sep (k r) Q := Iff.rfl

theorem bind_iff {p : Prog α} {f : α → Prog β} {Q : β → Prop} :
    ChanR sep (p >>= f) Q ↔ ChanR sep p (fun a => ChanR sep (f a) Q) := by
  induction p with
  | ret a => exact Iff.rfl
  | op o k ih =>
    show ChanR sep (Prog.op o fun r => k r >>= f) Q ↔ _
    rw [op_iff, op_iff]
    constructor
    · intro h; exact ⟨h.1, fun r hr => (ih r).1 (h.2 r hr)⟩
    · intro h; exact ⟨h.1, fun r hr => (ih r).2 (h.2 r hr)⟩

theorem pure_iff {a : α} {Q : α → Prop} : ChanR sep (pure a : Prog α) Q ↔ Q a := Iff.rfl
theorem ret_iff {a : α} {Q : α → Prop} : ChanR sep (Prog.ret a) Q ↔ Q a := Iff.rfl

theorem ite_iff {c : Prop} [Decidable c] {p q : Prog α} {Q : α → Prop} :
    ChanR sep (if c then p else q) Q ↔ if c then ChanR sep p Q else ChanR sep q Q := by
  split <;> rfl

theorem perform_iff {o : Op} {Q : Resp o → Prop} :
    ChanR sep (Prog.perform o) Q ↔ cOkCh sep o ∧ ∀ r, respOK o r → Q r := Iff.rfl

end ChanR

/-- programs that obey the channel table, whatever they return -/
def Chan (sep : Bool) {α : Type} (p : Prog α) : Prop := ChanR sep p (fun _ => True)

/-- `ChanR` is the footprint predicate of `Proofs/Model/Footprint.lean` for the tables -/
theorem ChanR_iff_sat {sep : Bool} {α : Type} {p : Prog α} {Q : α → Prop} :
    ChanR sep p Q ↔ p.Sat (cOkCh sep) respOK Q := by
  induction p with
  | ret a => rw [Prog.Sat.ret_iff]; exact Iff.rfl
  | op o k ih => rw [Prog.Sat.op_iff]; exact and_congr_right fun _ => forall₂_congr fun r _ => ih r

theorem ChanR.of_uses {sep : Bool} {α : Type} {p : Prog α} (h : p.Uses (cOkCh sep) respOK) {Q : α → Prop}
    (hQ : ∀ a, Q a) : ChanR sep p Q :=
  ChanR_iff_sat.2 (h.imp (fun _ => id) (fun _ _ => id) fun a _ => hQ a)

theorem Chan.use {sep : Bool} {α : Type} {p : Prog α} (h : Chan sep p) {Q : α → Prop} (hQ : ∀ a, Q a) : ChanR sep p Q :=
  .of_uses (ChanR_iff_sat.1 h) hQ

attribute [irreducible] ChanR

end SasLexer
