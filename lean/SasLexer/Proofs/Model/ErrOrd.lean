import SasLexer.Proofs.Kernel.ErrOrder
/-!
# Errors are listed in source order: the discipline that discharges `PrepOk` (`ewp`)

The only way an error can be listed out of order is `emitPrepared`: it appends an error that was prepared at an
earlier cursor position.  `ewp` demands that between `prepError` and `emitPrepared` no other error is emitted
(abstract flag `clean`); operations that may emit an error implicitly (`mode`/`popMode` on an empty stack, a slice
that fails, `rollback` without a checkpoint, …) clear the flag, except that `mode`/`popMode` keep it when the stack
is known to be non-empty (`ne`: set by `pushMode`, by `mode` itself, and learnt from a non-zero `modeDepth`).
-/
namespace SasLexer

structure ES where
  clean : Bool
  ne : Bool

/-- operations after which `clean` is lost: they may append an error (`mode`, `popMode`, `pendingStat`, `setPending` do so
only on an empty stack, which `ne` and `EInv.pend` exclude; `rollback` has its own line in `eNext`) -/
def mayErr : Op → Bool
  | .updateLastToken _ _ _ | .rollback | .pendingText | .pendingTextToMark | .pendingTextWithPrev
  | .litCut | .litResolve _ | .emitError _ => true
  | _ => false

def eOk : Op → ES → Prop
  | .emitPrepared, σ => σ.clean = true
  | _, _ => True

theorem eOk_of_ne {o : Op} (ho : o ≠ .emitPrepared) (σ : ES) : eOk o σ := by
  unfold eOk; split
  · exact absurd rfl ho
  · trivial

def eNext : Op → ES → ES
  | .prepError _, σ => { σ with clean := true }
  | .emitPrepared, σ => { σ with clean := true }
  | .pushMode _, σ => { σ with ne := true }
  | .mode, σ => { clean := σ.clean && σ.ne, ne := true }
  | .popMode, σ => { clean := σ.clean && σ.ne, ne := false }
  | .popModeRaw, σ => { σ with ne := false }
  | .rollback, _ => { clean := false, ne := false }
  | o, σ => if mayErr o then { σ with clean := false } else σ

def ewp {α : Type} : Prog α → (α → ES → Prop) → ES → Prop
  | .ret a, Q, σ => Q a σ
  | .op (.panic _) _, _, _ => True
  | .op .modeDepth k, Q, σ => ∀ d : Nat, ewp (k d) Q { σ with ne := σ.ne || d != 0 }
  | .op o k, Q, σ => eOk o σ ∧ ∀ r, ewp (k r) Q (eNext o σ)

namespace ewp
variable {α β : Type}

theorem op_iff {o : Op} {k : Resp o → Prog α} {Q : α → ES → Prop} {σ : ES} (ho : ∀ m, o ≠ .panic m) (hd : o ≠ .modeDepth) :
    ewp (Prog.op o k) Q σ ↔ eOk o σ ∧ ∀ r, ewp (k r) Q (eNext o σ) := by
  cases o <;> first | exact Iff.rfl | exact absurd rfl (ho _) | exact absurd rfl hd

theorem depth_iff {k : Resp .modeDepth → Prog α} {Q : α → ES → Prop} {σ : ES} :
    ewp (Prog.op .modeDepth k) Q σ ↔ ∀ d : Nat, ewp (k d) Q { σ with ne := σ.ne || d != 0 } := Iff.rfl

/-- the three forms of `ewp` at a primitive -/
theorem op_cases (o : Op) : (∃ m, o = .panic m) ∨ o = .modeDepth ∨ (∀ m, o ≠ .panic m) ∧ o ≠ .modeDepth := by
  refine (Op.panic_cases o).imp_right fun ho => ?_
  by_cases hd : o = .modeDepth
  · exact .inl hd
  · exact .inr ⟨ho, hd⟩

theorem mono {p : Prog α} {Q Q' : α → ES → Prop} (hQ : ∀ a σ, Q a σ → Q' a σ) : ∀ {σ}, ewp p Q σ → ewp p Q' σ := by
  induction p with
  | ret a => intro σ h; exact hQ _ _ h
  | op o k ih =>
    intro σ h
    rcases op_cases o with ⟨m, rfl⟩ | rfl | ⟨ho, hd⟩
    · trivial
    · exact fun d => ih d (h d)
    · rw [op_iff ho hd] at h ⊢
      exact ⟨h.1, fun r => ih r (h.2 r)⟩

theorem bind_iff {p : Prog α} {f : α → Prog β} {Q : β → ES → Prop} :
    ∀ {σ}, ewp (p >>= f) Q σ ↔ ewp p (fun a σ' => ewp (f a) Q σ') σ := by
  induction p with
  | ret a => intro σ; exact Iff.rfl
  | op o k ih =>
    intro σ
    show ewp (Prog.op o fun r => k r >>= f) Q σ ↔ _
    rcases op_cases o with ⟨m, rfl⟩ | rfl | ⟨ho, hd⟩
    · exact Iff.rfl
    · exact forall_congr' fun d => ih d
    · rw [op_iff ho hd, op_iff ho hd]
      exact and_congr_right fun _ => forall_congr' fun r => ih r

end ewp

structure EInv (σ : ES) (L : Lexer) : Prop where
  ord : KOrd L
  clean : σ.clean = true → PrepOk L
  ne : σ.ne = true → L.modesR ≠ []
  /-- the pending-statement stack is never empty (so its defensive error branches are dead) -/
  pend : L.pendingR ≠ []

theorem PrepOk.congr {L L' : Lexer} (h : PrepOk L) (e1 : L'.errsR = L.errsR) (e2 : L'.errReg = L.errReg) : PrepOk L' := by
  unfold PrepOk; rw [e1, e2]; exact h

theorem PrepOk.of_none {L : Lexer} (h : L.errReg = none) : PrepOk L := by
  intro e he; rw [h] at he; cases he


theorem step_pending_ne (cfg : Cfg) (o : Op) (L : Lexer) (h : L.pendingR ≠ []) : (step cfg o L).2.pendingR ≠ [] := by
  cases o
  case pushPending b => exact List.cons_ne_nil _ _
  case popPending | pendingStat => simp only [step, Lexer.popPendingStat, Lexer.pendingStat]; split <;> simp_all
  case setPending b => simp only [step, Lexer.setPendingStat]; split <;> simp
  all_goals exact mt (Eq.trans (step_frame.pendingR rfl).symm) h

theorem step_EInv (cfg : Cfg) (o : Op) (L : Lexer) (σ : ES) (h : EInv σ L) (ho : eOk o σ) :
    EInv (match o with
          | .modeDepth => { σ with ne := σ.ne || L.modesR.length != 0 }
          | o => eNext o σ) (step cfg o L).2 := by
  have hord : KOrd (step cfg o L).2 := step_KOrd cfg o L h.ord (by intro e; subst e; exact h.clean ho)
  have hpend : (step cfg o L).2.pendingR ≠ [] := step_pending_ne cfg o L h.pend
  have keep : ∀ {σ' : ES}, (σ'.clean = true → σ.clean = true) → (σ'.ne = true → σ.ne = true) →
      (step cfg o L).2.errsR = L.errsR → (step cfg o L).2.errReg = L.errReg → (step cfg o L).2.modesR = L.modesR →
      EInv σ' (step cfg o L).2 :=
    fun h1 h2 e1 e2 e3 => ⟨hord, fun hc => (h.clean (h1 hc)).congr e1 e2, fun hn => e3 ▸ h.ne (h2 hn), hpend⟩
  have dirty : ∀ {σ' : ES}, σ'.clean = false → (σ'.ne = true → σ.ne = true) → (step cfg o L).2.modesR = L.modesR →
      EInv σ' (step cfg o L).2 :=
    fun h1 h2 e3 => ⟨hord, fun hc => absurd (h1.symm.trans hc) nofun, fun hn => e3 ▸ h.ne (h2 hn), hpend⟩
  cases o
  case modeDepth =>
    refine ⟨hord, h.clean, fun hn => ?_, hpend⟩
    simp only [Bool.or_eq_true, bne_iff_ne, ne_eq] at hn
    exact hn.elim h.ne fun hn he => hn (congrArg List.length he)
  case prepError k =>
    refine ⟨hord, fun _ e he e' he' => ?_, h.ne, hpend⟩
    cases he
    exact h.ord.le e' he'
  case emitPrepared =>
    refine ⟨hord, fun _ => ?_, fun hn => ?_, hpend⟩ <;> simp only [step]
    · split
      · exact PrepOk.of_none rfl
      · exact PrepOk.of_none ‹_›
    · split <;> exact h.ne hn
  case pushMode m => exact ⟨hord, h.clean, fun _ => List.cons_ne_nil _ _, hpend⟩
  case mode =>
    refine ⟨hord, fun hc => ?_, fun _ => ?_, hpend⟩ <;> simp only [step, Lexer.mode]
    · simp only [eNext, Bool.and_eq_true] at hc
      cases hl : L.modesR with
      | nil => exact absurd hl (h.ne hc.2)
      | cons m ms => exact h.clean hc.1
    · split
      · exact ‹L.modesR = _› ▸ List.cons_ne_nil _ _
      · exact List.cons_ne_nil _ _
  case popMode =>
    refine ⟨hord, fun hc => ?_, nofun, hpend⟩
    simp only [eNext, Bool.and_eq_true] at hc
    simp only [step, Lexer.popMode]
    cases hl : L.modesR with
    | nil => exact absurd hl (h.ne hc.2)
    | cons m ms => exact h.clean hc.1
  case popModeRaw => exact ⟨hord, fun hc => (h.clean hc).congr (step_frame.errsR rfl) (step_frame.errReg rfl), nofun, hpend⟩
  case rollback => exact ⟨hord, nofun, nofun, hpend⟩
  case emitError | updateLastToken | pendingText | pendingTextToMark | pendingTextWithPrev | litCut | litResolve =>
    exact dirty rfl id (step_frame.modesR rfl)
  case pendingStat | setPending =>
    refine keep id id ?_ (step_frame.errReg rfl) (step_frame.modesR rfl)
    have := h.pend
    simp only [step, Lexer.pendingStat, Lexer.setPendingStat]; split <;> simp_all
  case modifyTop f =>
    refine ⟨hord, fun hc => (h.clean hc).congr (step_frame.errsR rfl) (step_frame.errReg rfl), fun hn => ?_, hpend⟩
    simp only [step]; split
    · exact List.cons_ne_nil _ _
    · exact h.ne hn
  case modifyAt i f =>
    refine ⟨hord, fun hc => (h.clean hc).congr (step_frame.errsR rfl) (step_frame.errReg rfl), fun hn => ?_, hpend⟩
    simp only [step]; split
    · obtain ⟨_, _, _, -, -, rfl⟩ := modifyNth_eq ‹_›
      exact mt (List.set_eq_nil_iff _ _).1 (h.ne hn)
    · exact h.ne hn
  case insertModeAt i m =>
    refine ⟨hord, fun hc => (h.clean hc).congr (step_frame.errsR rfl) (step_frame.errReg rfl), fun hn => ?_, hpend⟩
    simp only [step]; split
    · obtain ⟨_, rfl⟩ := insertNth_eq ‹_›
      simp
    · exact h.ne hn
  all_goals exact keep id id (step_frame.errsR rfl) (step_frame.errReg rfl) (step_frame.modesR rfl)

theorem ewp_sound (cfg : Cfg) {α : Type} (p : Prog α) : ∀ (Q : α → ES → Prop) (σ : ES) (L : Lexer), ewp p Q σ → EInv σ L →
    KOrd (Prog.run cfg p L).2 ∧ ∀ a, (Prog.run cfg p L).1 = some a → ∃ σ', Q a σ' ∧ EInv σ' (Prog.run cfg p L).2 := by
  intro Q
  refine run_sound cfg (W := fun p σ => ewp p Q σ) (fun _ _ hi => hi.ord) (fun _ _ h => h) ?_ p
  intro o k σ L h hi
  rcases ewp.op_cases o with ⟨m, rfl⟩ | rfl | ⟨ho, hd⟩
  · exact ⟨(step_EInv cfg (.panic m) L σ hi trivial).ord, fun hp => absurd hp (panic_panicked cfg m L)⟩
  · have hs := step_EInv cfg .modeDepth L σ hi trivial
    exact ⟨hs.ord, fun _ => ⟨_, hs, h _⟩⟩
  · rw [ewp.op_iff ho hd] at h
    have hs : EInv (eNext o σ) (step cfg o L).2 := by
      have := step_EInv cfg o L σ hi h.1
      split at this
      · exact absurd rfl hd
      · exact this
    exact ⟨hs.ord, fun _ => ⟨_, hs, h.2 _⟩⟩

/-- satisfies the discipline from every abstract state, whatever is demanded of the end state -/
def EOK {α : Type} (p : Prog α) : Prop := ∀ (Q : α → ES → Prop) (σ : ES), (∀ a σ', Q a σ') → ewp p Q σ

/-- moreover never emits an error: a prepared error stays fresh across it -/
def EKeep {α : Type} (p : Prog α) : Prop :=
  ∀ (Q : α → ES → Prop) (σ : ES), (∀ a σ', (σ.clean = true → σ'.clean = true) → Q a σ') → ewp p Q σ

theorem EOK.ewp {α} {p : Prog α} (h : EOK p) {Q : α → ES → Prop} {σ : ES} (hQ : ∀ a σ', Q a σ') : ewp p Q σ := h Q σ hQ
theorem EKeep.ewp {α} {p : Prog α} (h : EKeep p) {Q : α → ES → Prop} {σ : ES}
    (hQ : ∀ a σ', (σ.clean = true → σ'.clean = true) → Q a σ') : ewp p Q σ := h Q σ hQ

theorem EKeep.eok {α} {p : Prog α} (h : EKeep p) : EOK p := fun Q σ hQ => h Q σ (fun a σ' _ => hQ a σ')

namespace EOK
variable {α β : Type}

theorem pure (a : α) : EOK (Pure.pure a : Prog α) := fun _ _ hQ => hQ a _
theorem bind {p : Prog α} {f : α → Prog β} (hp : EOK p) (hf : ∀ a, EOK (f a)) : EOK (p >>= f) := by
  intro Q σ hQ
  rw [ewp.bind_iff]
  exact hp _ σ (fun a σ' => hf a Q σ' hQ)
theorem ite {c : Prop} [Decidable c] {p q : Prog α} (hp : EOK p) (hq : EOK q) : EOK (if c then p else q) := by
  split
  · exact hp
  · exact hq
theorem op (o : Op) (ho : o ≠ .emitPrepared) : EOK (Prog.perform o) := by
  intro Q σ hQ
  rcases ewp.op_cases o with ⟨m, rfl⟩ | rfl | ⟨hp, hd⟩
  · trivial
  · exact fun d => hQ _ _
  · rw [Prog.perform, ewp.op_iff hp hd]
    exact ⟨eOk_of_ne ho σ, fun r => hQ _ _⟩
end EOK

/-- the primitives that neither emit an error nor read the mode stack defensively: after them a clean state is clean -/
def Op.keepsClean : Op → Bool
  | .emitPrepared | .mode | .popMode => false
  | o => !mayErr o

namespace EKeep
variable {α β : Type}

theorem pure (a : α) : EKeep (Pure.pure a : Prog α) := fun _ _ hQ => hQ a _ id
theorem bind {p : Prog α} {f : α → Prog β} (hp : EKeep p) (hf : ∀ a, EKeep (f a)) : EKeep (p >>= f) := by
  intro Q σ hQ
  rw [ewp.bind_iff]
  exact hp _ σ (fun a σ' h1 => hf a Q σ' (fun b σ'' h2 => hQ b σ'' (fun hc => h2 (h1 hc))))
theorem ite {c : Prop} [Decidable c] {p q : Prog α} (hp : EKeep p) (hq : EKeep q) : EKeep (if c then p else q) := by
  split
  · exact hp
  · exact hq
theorem op (o : Op) (h : o.keepsClean = true) : EKeep (Prog.perform o) := by
  intro Q σ hQ
  rcases ewp.op_cases o with ⟨m, rfl⟩ | rfl | ⟨hp, hd⟩
  · trivial
  · exact fun d => hQ _ _ id
  · rw [Prog.perform, ewp.op_iff hp hd]
    refine ⟨eOk_of_ne (by rintro rfl; cases h) σ, fun r => hQ _ _ ?_⟩
    unfold eNext; split <;> simp_all [Op.keepsClean, mayErr]
end EKeep

attribute [irreducible] EOK EKeep

end SasLexer
