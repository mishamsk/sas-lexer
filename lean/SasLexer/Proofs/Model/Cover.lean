import SasLexer.Proofs.Model.Footprint
import SasLexer.Proofs.Kernel.RunInd
/-!
# "The first token starts at the end of the BOM": the discipline `cwp`

Abstract state: *is there a token yet* (`ne`), *is the pending token start at the BOM end* (`tokAt`), *has the
cursor not moved yet* (`atS`), the same three flags as saved by the live checkpoint (`cp`), and whether the mark
register sits at the BOM end (`mark`), and whether the text still is the one known on entry (`fresh`).  Independent of the characters read: every response is universally
quantified.  `cwp p Q σ` demands

* `startToken` only when a token exists or the cursor has not moved (otherwise the text consumed so far would
  belong to no token),
* the first token to be emitted (by `emitToken`, `updateLastToken` on an empty buffer, `emitTokenAtMark`) starts
  at the BOM end.

`CoverSound.lean`: for programs with `cwp`, `ne` implies that the oldest token of the buffer starts at the BOM end.

What a function of the control logic does to this state is not found by evaluating `cwp` through it: most
operations are invisible to the state (`Op.inert`), and a function is described by an invariant that each of the
operations it can perform keeps (`Triple`, `Keeps`, at the end of this file).
-/
namespace SasLexer

structure CS where
  ne : Bool
  tokAt : Bool
  atS : Bool
  mark : Option Bool
  cp : Option (Bool × Bool × Bool)
  /-- no cursor operation since the state was entered: `rest` still returns the text known at entry -/
  fresh : Bool
  deriving DecidableEq, Repr

/-- side condition of one operation -/
def cOk : Op → CS → Prop
  | .startToken, σ => σ.ne = true ∨ σ.atS = true
  | .emitToken _ _ _, σ => σ.ne = true ∨ σ.tokAt = true
  | .updateLastToken _ _ _, σ => σ.ne = true ∨ σ.tokAt = true
  | .emitTokenAtMark _ _ _, σ => σ.ne = true ∨ σ.mark ≠ some false
  | .emitEofAtCursor, _ => False
  | _, _ => True

/-- abstract effect of one operation (deterministic; responses are not consulted) -/
def cNext : Op → CS → CS
  | .startToken, σ => { σ with tokAt := σ.atS }
  | .markIfNone, σ => match σ.mark with | some _ => σ | none => { σ with mark := some σ.atS }
  | .clearMark, σ => { σ with mark := none }
  | .emitToken _ _ _, σ => { σ with ne := true }
  | .updateLastToken _ _ _, σ => { σ with ne := true }
  | .emitTokenAtMark _ _ _, σ => match σ.mark with | some _ => { σ with ne := true } | none => σ
  | .advance, σ => { σ with atS := false, fresh := false }
  | .advanceBy _, σ => { σ with atS := false, fresh := false }
  | .eatWhile _, σ => { σ with atS := false, fresh := false }
  | .checkpoint, σ => { σ with cp := some (σ.ne, σ.tokAt, σ.atS) }
  | .clearCheckpoint, σ => { σ with cp := none }
  | .rollback, σ => match σ.cp with
      | some (n, t, a) => { σ with ne := n, tokAt := t, atS := a, cp := none, fresh := false }
      | none => σ
  | _, σ => σ

/-- what is known of every text the program can see: it is a suffix of a source below 4 GiB -/
def SmallRest (r : List Char) : Prop := r.length < 4294967296

/-- `R`: what is known of the text in front of the cursor when the program is entered (used as long as `fresh`) -/
def cwp (R : List Char → Prop) {α : Type} : Prog α → (α → CS → Prop) → CS → Prop
  | .ret a, Q, σ => Q a σ
  | .op (.panic _) _, _, _ => True
  | .op .rest k, Q, σ => ∀ r : List Char, SmallRest r → (σ.fresh = true → R r) → cwp R (k r) Q σ
  | .op o k, Q, σ => cOk o σ ∧ ∀ resp : Resp o, cwp R (k resp) Q (cNext o σ)

namespace cwp
variable {α β : Type} {R : List Char → Prop}

theorem op_iff {o : Op} {k : Resp o → Prog α} {Q : α → CS → Prop} {σ : CS} (ho : ∀ m, o ≠ .panic m) (hr : o ≠ .rest) :
    cwp R (Prog.op o k) Q σ ↔ cOk o σ ∧ ∀ resp : Resp o, cwp R (k resp) Q (cNext o σ) := by
  cases o <;> first | exact Iff.rfl | exact absurd rfl (ho _) | exact absurd rfl hr

theorem rest_iff {k : Resp .rest → Prog α} {Q : α → CS → Prop} {σ : CS} :
    cwp R (Prog.op .rest k) Q σ ↔ ∀ r : List Char, SmallRest r → (σ.fresh = true → R r) → cwp R (k r) Q σ := Iff.rfl

theorem panic_iff {m : String} {k : Resp (.panic m) → Prog α} {Q : α → CS → Prop} {σ : CS} :
    cwp R (Prog.op (.panic m) k) Q σ ↔ True := Iff.rfl

theorem mono {p : Prog α} {Q Q' : α → CS → Prop} (hQ : ∀ a σ, Q a σ → Q' a σ) : ∀ {σ}, cwp R p Q σ → cwp R p Q' σ := by
  induction p with
  | ret a => intro σ h; exact hQ _ _ h
  | op o k ih =>
    intro σ h
    rcases Op.panic_cases o with ⟨m, rfl⟩ | ho'
    · trivial
    · by_cases hr : o = .rest
      · subst hr
        rw [rest_iff] at h ⊢
        exact fun r hs hr => ih r (h r hs hr)
      · rw [op_iff ho' hr] at h ⊢
        exact ⟨h.1, fun resp => ih resp (h.2 resp)⟩

theorem bind_iff {p : Prog α} {f : α → Prog β} {Q : β → CS → Prop} :
    ∀ {σ}, cwp R (p >>= f) Q σ ↔ cwp R p (fun a σ' => cwp R (f a) Q σ') σ := by
  induction p with
  | ret a => intro σ; exact Iff.rfl
  | op o k ih =>
    intro σ
    rcases Op.panic_cases o with ⟨m, rfl⟩ | ho'
    · exact Iff.rfl
    · show cwp R (Prog.op o fun r => k r >>= f) Q σ ↔ _
      by_cases hr : o = .rest
      · subst hr
        rw [rest_iff, rest_iff]
        constructor
        · intro h r hs hr; exact (ih r).1 (h r hs hr)
        · intro h r hs hr; exact (ih r).2 (h r hs hr)
      · rw [op_iff ho' hr, op_iff ho' hr]
        constructor
        · intro h; exact ⟨h.1, fun resp => (ih resp).1 (h.2 resp)⟩
        · intro h; exact ⟨h.1, fun resp => (ih resp).2 (h.2 resp)⟩

@[simp] theorem pure_iff {a : α} {Q : α → CS → Prop} {σ} : cwp R (pure a : Prog α) Q σ ↔ Q a σ := Iff.rfl
@[simp] theorem ret_iff {a : α} {Q : α → CS → Prop} {σ} : cwp R (Prog.ret a) Q σ ↔ Q a σ := Iff.rfl

theorem ite_iff {c : Prop} [Decidable c] {p q : Prog α} {Q : α → CS → Prop} {σ} :
    cwp R (if c then p else q) Q σ ↔ if c then cwp R p Q σ else cwp R q Q σ := by
  split <;> rfl

/-- the rule of a plain operation is enough for every operation: `rest` and `panic` ask for less -/
theorem op_intro {o : Op} {k : Resp o → Prog α} {Q : α → CS → Prop} {σ : CS} (hok : cOk o σ)
    (h : ∀ resp, cwp R (k resp) Q (cNext o σ)) : cwp R (Prog.op o k) Q σ := by
  rcases Op.panic_cases o with ⟨m, rfl⟩ | ho
  · exact panic_iff.2 trivial
  · by_cases hr : o = .rest
    · subst hr; exact rest_iff.2 fun r _ _ => h r
    · exact (op_iff ho hr).2 ⟨hok, h⟩

theorem rest_bind_iff {f : List Char → Prog α} {Q : α → CS → Prop} {σ : CS} :
    cwp R (Prog.perform .rest >>= f) Q σ ↔ ∀ r : List Char, SmallRest r → (σ.fresh = true → R r) → cwp R (f r) Q σ :=
  Iff.rfl

theorem perform_intro {o : Op} {Q : Resp o → CS → Prop} {σ : CS} (hok : cOk o σ) (h : ∀ resp, Q resp (cNext o σ)) :
    cwp R (Prog.perform o) Q σ := op_intro hok fun r => ret_iff.2 (h r)

end cwp

attribute [irreducible] cwp

/-- the operations the abstract state does not see: no side condition, no effect -/
def Op.inert : Op → Bool
  | .startToken | .markIfNone | .clearMark | .emitToken .. | .emitTokenAtMark .. | .updateLastToken .. | .advance
  | .advanceBy _ | .eatWhile _ | .checkpoint | .clearCheckpoint | .rollback | .emitEofAtCursor => false
  | _ => true

theorem cNext_inert {o : Op} (h : o.inert = true) (σ : CS) : cOk o σ ∧ cNext o σ = σ := by
  cases o <;> first | exact ⟨trivial, rfl⟩ | cases h

theorem inert_step {I : CS → Prop} {o : Op} (h : o.inert = true) (σ : CS) (hI : I σ) : cOk o σ ∧ I (cNext o σ) :=
  (cNext_inert h σ).2.symm ▸ ⟨(cNext_inert h σ).1, hI⟩

/-- from a state in `I`, `p` meets every side condition on the way and returns `a` in a state in `J a`, whatever the
responses -/
def Triple (I : CS → Prop) {α : Type} (p : Prog α) (J : α → CS → Prop) : Prop :=
  ∀ (R : List Char → Prop) (Q : α → CS → Prop) (σ : CS), I σ → (∀ a σ', J a σ' → Q a σ') → cwp R p Q σ

namespace Triple
variable {α β : Type} {I I' : CS → Prop} {J J' : α → CS → Prop}

theorem pure (a : α) (h : ∀ σ, I σ → J a σ) : Triple I (Pure.pure a : Prog α) J :=
  fun _ _ σ hI hQ => cwp.pure_iff.2 (hQ a σ (h σ hI))

theorem bind {p : Prog α} {f : α → Prog β} {K : β → CS → Prop} (hp : Triple I p J) (hf : ∀ a, Triple (J a) (f a) K) :
    Triple I (p >>= f) K :=
  fun R Q σ hI hQ => cwp.bind_iff.2 (hp R _ σ hI fun a σ' hJ => hf a R Q σ' hJ hQ)

theorem ite {c : Prop} [Decidable c] {p q : Prog α} (hp : Triple I p J) (hq : Triple I q J) :
    Triple I (if c then p else q) J := by
  split <;> assumption

theorem op {o : Op} {J : CS → Prop} (h : ∀ σ, I σ → cOk o σ ∧ J (cNext o σ)) : Triple I (Prog.perform o) fun _ => J :=
  fun _ _ σ hI hQ => cwp.perform_intro (h σ hI).1 fun r => hQ r _ (h σ hI).2

theorem imp {p : Prog α} (h : Triple I p J) (hI : ∀ σ, I' σ → I σ) (hJ : ∀ a σ, J a σ → J' a σ) : Triple I' p J' :=
  fun R Q σ hσ hQ => h R Q σ (hI σ hσ) fun a σ' hj => hQ a σ' (hJ a σ' hj)

/-- the precondition may fix the entry state -/
theorem of_forall {p : Prog α} (h : ∀ σ₀, I σ₀ → Triple (· = σ₀) p J) : Triple I p J :=
  fun R Q σ hI hQ => h σ hI R Q σ rfl hQ

theorem cwp {p : Prog α} (h : Triple I p J) {R : List Char → Prop} {Q : α → CS → Prop} {σ : CS} (hI : I σ)
    (hQ : ∀ a σ', J a σ' → Q a σ') : cwp R p Q σ := h R Q σ hI hQ

end Triple

attribute [irreducible] Triple

/-- `p` keeps the invariant `I`.  A *footprint* fact: it holds as soon as every operation `p` can perform keeps `I`
(`Triple.op`), so it is proved by walking `p`. -/
abbrev Keeps (I : CS → Prop) {α : Type} (p : Prog α) : Prop := Triple I p fun _ => I

namespace Keeps
variable {α β : Type} {I : CS → Prop}

theorem pure (a : α) : Keeps I (Pure.pure a : Prog α) := Triple.pure a fun _ => id

theorem bind {p : Prog α} {f : α → Prog β} (hp : Keeps I p) (hf : ∀ a, Keeps I (f a)) : Keeps I (p >>= f) :=
  Triple.bind hp hf

/-- an invariant that every `φ`-operation keeps is kept by every program that performs only `φ`-operations -/
theorem of_uses {φ : Op → Prop} (h : ∀ o, φ o → ∀ σ, I σ → cOk o σ ∧ I (cNext o σ)) {p : Prog α}
    (hp : p.Uses φ fun _ _ => True) : Keeps I p :=
  hp.elim pure (fun o ho => .op (h o ho)) bind

end Keeps

/-- `keeps step [callee lemmas]` proves `Keeps I p` by walking `p`, where `step h : ∀ σ, I σ → cOk o σ ∧ I (cNext o σ)` for
the operations `o` of a class given by a Boolean test (`h : o.test = true`, found by `rfl`).  The rules are matched
syntactically: helpers that are not a single operation (`peek`, `dbg`, …) are to be unfolded first.  A callee lemma is
tried only where no structural rule fits, and before the rule of a single operation (which would unfold the callee). -/
syntax "keeps" term:max "[" term,* "]" : tactic
macro_rules
  | `(tactic| keeps $step [$ls,*]) => `(tactic| repeat' (first
      | with_reducible (first
        | refine Keeps.bind ?_ fun _ => ?_ | apply Triple.ite | apply Keeps.pure | (first $[| apply $ls]*))
      | exact Triple.op ($step rfl) | split))

end SasLexer
