import SasLexer.Proofs.Model.DiscMacroArgs
import SasLexer.Lex.Open
/-! # The scanning discipline holds of open code and string expressions (`Lex/Open.lean`) -/
namespace SasLexer

theorem datalinesToSemiLoop_safe : ∀ (f : Nat), Safe (datalinesToSemiLoop f)
  | 0 => Safe.abort _
  | f + 1 => fun r => by
    unfold datalinesToSemiLoop
    have ih := datalinesToSemiLoop_safe f
    awp_auto [ih.awp]
    awp_done

theorem datalinesBodyLoop_awp (ending : List Char) : ∀ (f : Nat) (r : List Char) {Q : Bool → List Char → Bool → Prop},
    (∀ b r', (b = true → r'.take ending.length = ending) → Q b r' false) → awp (datalinesBodyLoop ending f) Q r false
  | 0, r, Q, hQ => by
    simp [datalinesBodyLoop, awp_simp]
  | f + 1, r, Q, hQ => by
    unfold datalinesBodyLoop
    have ih := fun r => datalinesBodyLoop_awp ending f r hQ
    awp_auto [ih]
    all_goals (first | exact hQ _ _ (by simp_all) | grind)

theorem lexDatalines_safe (cfg : Cfg) (is4 : Bool) : Safe (lexDatalines cfg is4) := by
  intro r; unfold lexDatalines
  awp_auto [(datalinesToSemiLoop_safe _).awp, datalinesBodyLoop_awp]
  all_goals (first | decide | (cases is4 <;> simp_all <;> grind))

theorem lexIdentifier_safe (cfg : Cfg) : Safe (lexIdentifier cfg) := by
  intro r; unfold lexIdentifier
  awp_auto [(lexDatalines_safe _ _).awp]
  all_goals (first | exact absurd ‹_› (lookupKw_ne_eof ‹_›) | grind)

theorem lexSymbols_awp (cfg : Cfg) (c : Char) (t : List Char) (hws : isWhitespace c = false)
    {Q : Unit → List Char → Bool → Prop} (hQ : ∀ r', Q () r' false) :
    awp (lexSymbols cfg c) Q (c :: t) false := by
  refine awp.of_lag (fun _ => hQ) ?_
  -- `c` is no white space, so no line feed: all that the arms which only skip `c` need
  have hc : (some c == some '\n') = false := by simpa using ne_nl_of_not_ws hws
  unfold lexSymbols
  -- the two shapes of arm, once each
  extract_lets one two
  have hone : ∀ ty, ty ≠ .EOF → awp (one ty) (fun _ _ lag => lag = false) (c :: t) false := by
    intro ty hty
    simp only [one]
    awp_auto []
    all_goals first | exact hc | exact hty ‹_›
  have htwo : ∀ s ty2 ty1, ty2 ≠ .EOF → ty1 ≠ .EOF → (s == '\n') = false →
      awp (two s ty2 ty1) (fun _ _ lag => lag = false) (c :: t) false := by
    intro s ty2 ty1 h2 h1 hs
    simp only [two]
    awp_auto []
    all_goals first | exact hc | exact no_lf_of_head ‹_› hs | exact h2 ‹_› | exact h1 ‹_›
  clear_value one two
  awp_auto [lexPredictedComment_safe.awp, (lexNumericLiteral_safe _ _).awp, lexCharFormat_safe.awp, hone, htwo]
  all_goals first
    | exact hc | (rename_i h; cases h; done) | decide
    | exact no_lf_of_head (beq_of_eq ‹_›) (by decide) | grind

set_option maxRecDepth 8000 in
theorem dispatchModeDefault_awp (cfg : Cfg) (c : Char) (t : List Char)
    {Q : Unit → List Char → Bool → Prop} (hQ : ∀ r', Q () r' false) :
    awp (dispatchModeDefault cfg c) Q (c :: t) false := by
  refine awp.of_lag (fun _ => hQ) ?_
  unfold dispatchModeDefault
  awp_auto [(lexWs_safe _).awp, lexSingleQuotedStr_awp', lexStringExpressionStart_awp', lexCStyleComment_awp',
    (lexMacroVarExpr_safe _).awp, lexMacroComment_awp', lexMacroIdentifier_awp', (lexNumericLiteral_safe _ _).awp,
    (lexIdentifier_safe _).awp, lexSymbols_awp]
  awp_done

theorem lastTokIsStart_inert : Inert lastTokIsStart := by unfold lastTokIsStart P.lastTokTy; inert

theorem handleUnterminatedStrExpr_inert (cfg : Cfg) : Inert (handleUnterminatedStrExpr cfg) := by
  unfold handleUnterminatedStrExpr P.peek; inert [lastTokIsStart_inert, Inert.dbg]

theorem handleUnterminatedStrExpr_safe (cfg : Cfg) : Safe (handleUnterminatedStrExpr cfg) :=
  (handleUnterminatedStrExpr_inert cfg).safe

theorem lexDoubleQuotedLiteral_awp (cfg : Cfg) {r : List Char} (hr : r.head? = some '"')
    {Q : Unit → List Char → Bool → Prop} (hQ : ∀ r', Q () r' false) :
    awp (lexDoubleQuotedLiteral cfg) Q r false := by
  refine awp.of_lag (fun _ => hQ) ?_
  unfold lexDoubleQuotedLiteral
  awp_auto [resolveStringLiteralEnding_awp]
  awp_done

theorem lexStrExprTextLoop_safe (cfg : Cfg) : ∀ (f : Nat), Safe (lexStrExprTextLoop cfg f)
  | 0 => (Safe.abort _).bind fun _ => .pure _
  | f + 1 => fun r => by
    unfold lexStrExprTextLoop
    have ih := lexStrExprTextLoop_safe cfg f
    awp_auto [ih.awp, lastTokIsStart_inert.awp', lexDoubleQuotedLiteral_awp]
    awp_done

theorem lexStrExprText_safe (cfg : Cfg) : Safe (lexStrExprText cfg) := by
  intro r; unfold lexStrExprText
  awp_auto [(lexStrExprTextLoop_safe _ _).awp, (handleUnterminatedStrExpr_safe _).awp]

/-- what `dispatchModeStrExpr` skips after the closing quote: a suffix letter is no line feed -/
theorem strExprEndType_spec (o : Option Char) (n : Char) :
    (strExprEndType o n).1 ≠ .EOF ∧
    ((strExprEndType o n).1 ≠ .StringExprEnd → o ≠ some '\n') ∧
    ((strExprEndType o n).2 = 2 → o ≠ some '\n' ∧ n ≠ '\n') := by
  unfold strExprEndType
  split
  · repeat' split
    all_goals (refine ⟨nofun, fun _ => ?_, fun _ => ?_⟩ <;>
      first | contradiction | (rintro ⟨⟩; simp_all) | (constructor <;> rintro ⟨⟩ <;> simp_all))
  · exact ⟨nofun, fun h => absurd rfl h, nofun⟩

set_option maxRecDepth 8000 in
theorem dispatchModeStrExpr_awp (cfg : Cfg) (c : Char) (a : Bool) (t : List Char)
    {Q : Unit → List Char → Bool → Prop} (hQ : ∀ r', Q () r' false) :
    awp (dispatchModeStrExpr cfg c a) Q (c :: t) false := by
  refine awp.of_lag (fun _ => hQ) ?_
  unfold dispatchModeStrExpr
  awp_auto [(lexStrExprText_safe _).awp, lastTokIsStart_inert.awp', lexDoubleQuotedLiteral_awp,
    (lexMacroVarExpr_safe _).awp, lexMacroIdentifier_awp']
  all_goals (have hs := strExprEndType_spec t.head? (t.tail.head?.getD (Char.ofNat 0)); grind)

end SasLexer
