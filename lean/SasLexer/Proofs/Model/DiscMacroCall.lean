import SasLexer.Proofs.Model.DiscCommon
import SasLexer.Proofs.Pure.Keywords
/-! # The scanning discipline holds of the `%name` dispatch (`Lex/MacroCall.lean`) -/
namespace SasLexer

theorem maybeExpectMacroCallArgsOrLabel_inert (b : _) : Inert (maybeExpectMacroCallArgsOrLabel b) := by unfold maybeExpectMacroCallArgsOrLabel; inert

theorem maybeExpectMacroCallArgsOrLabel_safe (b : Bool) : Safe (maybeExpectMacroCallArgsOrLabel b) :=
  (maybeExpectMacroCallArgsOrLabel_inert b).safe

theorem expectMacroStrCallArgs_inert (b : _) : Inert (expectMacroStrCallArgs b) := by unfold expectMacroStrCallArgs; inert
theorem expectEvalCallArgs_inert (b : _) : Inert (expectEvalCallArgs b) := by unfold expectEvalCallArgs; inert
theorem expectScanOrSubstrCallArgs_inert (b : _) : Inert (expectScanOrSubstrCallArgs b) := by unfold expectScanOrSubstrCallArgs; inert
theorem expectBuiltinMacroCallArgs_inert : Inert (expectBuiltinMacroCallArgs) := by unfold expectBuiltinMacroCallArgs; inert
theorem expectBuiltinMacroCallOneArgMasking_inert : Inert (expectBuiltinMacroCallOneArgMasking) := by unfold expectBuiltinMacroCallOneArgMasking; inert
theorem expectBuiltinMacroCallNamedArgs_inert : Inert (expectBuiltinMacroCallNamedArgs) := by unfold expectBuiltinMacroCallNamedArgs; inert
theorem expectSysfuncMacroCallArgs_inert : Inert (expectSysfuncMacroCallArgs) := by unfold expectSysfuncMacroCallArgs; inert
theorem expectMacroUntilWhileStatArgs_inert : Inert (expectMacroUntilWhileStatArgs) := by unfold expectMacroUntilWhileStatArgs; inert
theorem expectMacroLetStat_inert (e : _) : Inert (expectMacroLetStat e) := by unfold expectMacroLetStat; inert
theorem expectMacroNameThenOpts_inert : Inert (expectMacroNameThenOpts) := by unfold expectMacroNameThenOpts; inert
theorem expectSyscallCallAndArgs_inert : Inert (expectSyscallCallAndArgs) := by unfold expectSyscallCallAndArgs; inert

theorem maybeEmitMacroSepBeforeKw_inert (ty : TokenType) : Inert (maybeEmitMacroSepBeforeKw ty) := by
  unfold maybeEmitMacroSepBeforeKw; inert

theorem macroCallOrStatPreload_inert (ty : TokenType) (b : Bool) : Inert (macroCallOrStatPreload ty b) := by
  unfold macroCallOrStatPreload
  inert [maybeExpectMacroCallArgsOrLabel_inert _, expectMacroStrCallArgs_inert _, expectEvalCallArgs_inert _,
    expectScanOrSubstrCallArgs_inert _, expectBuiltinMacroCallArgs_inert, expectBuiltinMacroCallOneArgMasking_inert,
    expectBuiltinMacroCallNamedArgs_inert, expectSysfuncMacroCallArgs_inert, expectMacroUntilWhileStatArgs_inert,
    expectMacroLetStat_inert _, expectMacroNameThenOpts_inert, expectSyscallCallAndArgs_inert]

theorem dispatchMacroCallOrStat_inert (cfg : Cfg) (ty : TokenType) (b : Bool) (hty : ty ≠ .EOF) :
    Inert (dispatchMacroCallOrStat cfg ty b) := by
  unfold dispatchMacroCallOrStat
  inert [maybeEmitMacroSepBeforeKw_inert _, macroCallOrStatPreload_inert _ _]
  all_goals exact hty ‹_›

theorem macroCall_take {t : List Char} {x : TokenType × Nat} (h : lexMacroCallStatOrLabel t = .ok x) :
    ∀ c ∈ ('%' :: t).take (x.2 + 1), c ≠ '\n' := by
  obtain ⟨ty, n⟩ := x
  obtain ⟨_, rfl⟩ := lexMacroCallStatOrLabel_ok h
  intro c hc heq
  subst heq
  rw [List.take_succ_cons] at hc
  simp only [List.mem_cons] at hc
  rcases hc with hc | hc
  · exact absurd hc (by decide)
  · have := take_takeWhile_len isIdentContinue t hc
    rw [isIdentContinue_nl] at this; cases this

set_option maxRecDepth 8000 in
theorem lexMacroCall_awp' (cfg : Cfg) (a b : Bool) {r : List Char} {Q : MacroKwType → List Char → Bool → Prop}
    (hQ : ∀ r', Q .macroCall r' false) (hN : Q .none r false) (hS : Q .macroStat r false)
    (h1 : r.head? = some '%') : awp (lexMacroCall cfg a b) Q r false := by
  obtain ⟨t, rfl⟩ := head_cons h1
  unfold lexMacroCall
  awp_auto [(dispatchMacroCallOrStat_inert _ _ _ _).awp']
  all_goals (first | exact hQ _ | exact hN | exact hS | exact macroCall_take ‹_› _ ‹_› ‹_› | exact (lexMacroCallStatOrLabel_ok ‹_›).1 ‹_› | grind)

theorem lexMacroIdentifier_awp' (cfg : Cfg) (b : Bool) {r : List Char} {Q : Unit → List Char → Bool → Prop}
    (hQ : ∀ r', Q () r' false) (h1 : r.head? = some '%') : awp (lexMacroIdentifier cfg b) Q r false := by
  obtain ⟨t, rfl⟩ := head_cons h1
  refine awp.of_lag (fun _ => hQ) ?_
  unfold lexMacroIdentifier
  awp_auto [(dispatchMacroCallOrStat_inert _ _ _ _).awp']
  all_goals (first | exact (lexMacroCallStatOrLabel_ok ‹_›).1 ‹_› | grind)

theorem dispatchMacroDo_awp (cfg : Cfg) (c : Char) (t : List Char) {Q : Unit → List Char → Bool → Prop}
    (hQ : ∀ r', Q () r' false) : awp (dispatchMacroDo cfg c) Q (c :: t) false := by
  refine awp.of_lag (fun _ => hQ) ?_
  unfold dispatchMacroDo
  awp_auto [lexMacroIdentifier_awp']
  awp_done

theorem dispatchMacroLocalGlobal_awp (cfg : Cfg) (c : Char) (l : Bool) (t : List Char) {Q : Unit → List Char → Bool → Prop}
    (hQ : ∀ r', Q () r' false) : awp (dispatchMacroLocalGlobal cfg c l) Q (c :: t) false := by
  refine awp.of_lag (fun _ => hQ) ?_
  unfold dispatchMacroLocalGlobal
  awp_auto [(expectMacroLetStat_inert _).awp']
  awp_done

end SasLexer
