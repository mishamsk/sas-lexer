import SasLexer.Lex.Helpers
/-!
# The footprint of a program

`p.Sat φ ρ Q`: whatever the responses (those to `o` restricted to `ρ o`), every operation `p` performs
satisfies `φ`, and every value it returns satisfies `Q`.
-/
namespace SasLexer
namespace Prog
variable {α β : Type} {φ : Op → Prop} {ρ : (o : Op) → Resp o → Prop}

def Sat (φ : Op → Prop) (ρ : (o : Op) → Resp o → Prop) {α : Type} : Prog α → (α → Prop) → Prop
  | .ret a, Q => Q a
  | .op o k, Q => φ o ∧ ∀ r, ρ o r → Sat φ ρ (k r) Q

/-- `Sat` with nothing asked of the result -/
@[reducible] def Uses (φ : Op → Prop) (ρ : (o : Op) → Resp o → Prop) (p : Prog α) : Prop :=
  Sat φ ρ p fun _ => True

namespace Sat

theorem pure {a : α} {Q : α → Prop} (h : Q a) : Sat φ ρ (Pure.pure a : Prog α) Q := h

theorem ret_iff {a : α} {Q : α → Prop} : Sat φ ρ (.ret a) Q ↔ Q a := Iff.rfl

theorem op_iff {o : Op} {k : Resp o → Prog α} {Q : α → Prop} :
    Sat φ ρ (.op o k) Q ↔ φ o ∧ ∀ r, ρ o r → Sat φ ρ (k r) Q := Iff.rfl

theorem perform {o : Op} (h : φ o) : Uses φ ρ (Prog.perform o) := ⟨h, fun _ _ => trivial⟩

/-- what is known of a response -/
theorem perform_resp {o : Op} (h : φ o) : Sat φ ρ (Prog.perform o) (ρ o) := ⟨h, fun _ hr => hr⟩

/-- `φ` and `Q` may be weakened, `ρ` strengthened -/
theorem imp {φ' : Op → Prop} {ρ' : (o : Op) → Resp o → Prop} {p : Prog α} {Q Q' : α → Prop}
    (hφ : ∀ o, φ o → φ' o) (hρ : ∀ o r, ρ' o r → ρ o r) (hQ : ∀ a, Q a → Q' a) :
    Sat φ ρ p Q → Sat φ' ρ' p Q' := by
  induction p with
  | ret a => exact hQ a
  | op o k ih => exact fun h => ⟨hφ o h.1, fun r hr => ih r (h.2 r (hρ o r hr))⟩

theorem bind {p : Prog α} {f : α → Prog β} {Q : α → Prop} {Q' : β → Prop}
    (hp : Sat φ ρ p Q) (hf : ∀ a, Q a → Sat φ ρ (f a) Q') : Sat φ ρ (p >>= f) Q' := by
  induction p with
  | ret a => exact hf a hp
  | op o k ih => exact ⟨hp.1, fun r hr => ih r (hp.2 r hr)⟩

theorem seq {p : Prog α} {f : α → Prog β} {Q' : β → Prop}
    (hp : Uses φ ρ p) (hf : ∀ a, Sat φ ρ (f a) Q') : Sat φ ρ (p >>= f) Q' :=
  bind hp fun a _ => hf a

theorem ite {c : Prop} {_ : Decidable c} {p q : Prog α} {Q : α → Prop}
    (hp : c → Sat φ ρ p Q) (hq : ¬c → Sat φ ρ q Q) : Sat φ ρ (if c then p else q) Q := by
  split
  · exact hp ‹_›
  · exact hq ‹_›

theorem forIn {γ σ : Type} {l : List γ} {init : σ} {body : γ → σ → Prog (ForInStep σ)}
    (h : ∀ x s, Uses φ ρ (body x s)) : Uses φ ρ (forIn l init body) := by
  induction l generalizing init with
  | nil => exact pure trivial
  | cons x l ih =>
    rw [List.forIn_cons]
    refine seq (h x init) fun r => ?_
    cases r
    · exact pure trivial
    · exact ih

/-- A property of programs that holds of `pure`, of every single `φ`-operation, and is closed under `>>=` holds
of every program that performs only `φ`-operations. -/
theorem elim {C : ∀ {α : Type}, Prog α → Prop} (hpure : ∀ {α : Type} (a : α), C (Pure.pure a : Prog α))
    (hop : ∀ o, φ o → C (Prog.perform o))
    (hbind : ∀ {α β : Type} {p : Prog α} {f : α → Prog β}, C p → (∀ a, C (f a)) → C (p >>= f))
    {p : Prog α} (h : Uses φ (fun _ _ => True) p) : C p := by
  induction p with
  | ret a => exact hpure a
  | op o k ih => exact hbind (hop o h.1) fun r => ih r (h.2 r trivial)

end Sat

attribute [irreducible] Sat

end Prog
end SasLexer
