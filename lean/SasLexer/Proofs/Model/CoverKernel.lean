import SasLexer.Proofs.Model.CoverSound
/-!
# Once the oldest token starts at the BOM end it stays there — for every program (kernel-style)

`KOld L`: the buffer is non-empty, its oldest token starts at the BOM end, and a live checkpoint keeps at least one
token.  No primitive has a side condition: `rollback` truncates to a checkpoint length ≥ 1, retyping and the separator
insertion edit the tail (`step_KOld`, `run_KOld`).  `KOld.of_CInv` enters it from the cover discipline.
-/
namespace SasLexer

structure KOld (L : Lexer) : Prop where
  first : ∃ t, L.toksR.getLast? = some t ∧ t.start = bomChars L.src
  cp : ∀ c, L.cp = some c → 1 ≤ c.nToks ∧ c.nToks ≤ L.toksR.length

namespace KOld
variable {L : Lexer} {cfg : Cfg}

theorem ne (h : KOld L) : L.toksR ≠ [] := by
  obtain ⟨t, ht, _⟩ := h.first
  intro e; rw [e] at ht; simp at ht

theorem congr {L L' : Lexer} (h : KOld L) (e1 : L'.src = L.src) (e5 : L'.toksR = L.toksR) (e8 : L'.cp = L.cp) : KOld L' := by
  constructor <;> simp only [e1, e5, e8]
  · exact h.first
  · exact h.cp

theorem withToks (h : KOld L) {ts : List TokInfo} (hl : L.toksR.length ≤ ts.length)
    (hlast : ts.getLast?.map (·.start) = L.toksR.getLast?.map (·.start)) : KOld { L with toksR := ts } :=
  ⟨oldest_of_last hlast h.first, fun c hc => ⟨(h.cp c hc).1, Nat.le_trans (h.cp c hc).2 hl⟩⟩

theorem bufAddToken (h : KOld L) (t : TokInfo) : KOld (L.bufAddToken cfg t) :=
  (h.withToks (ts := t :: L.toksR) (Nat.le_succ _) (congrArg _ (getLast?_cons_of_ne_nil t h.ne))).congr rfl rfl rfl

end KOld

theorem step_KOld (cfg : Cfg) (o : Op) (L : Lexer) (h : KOld L) : KOld (step cfg o L).2 := by
  cases o
  case emitToken ch ty p => exact h.bufAddToken _
  case emitTokenAtMark ch ty p => exact step_emitTokenAtMark h fun _ _ => h.bufAddToken _
  case updateLastToken ch ty p =>
    simp only [step, Lexer.updateLastToken]
    cases hl : L.toksR with
    | cons t ts =>
      exact h.withToks (ts := { t with chan := ch, ty := ty, payload := _ } :: ts) (by simp [hl]) (hl ▸ last_start_of_map rfl)
    | nil => exact absurd hl h.ne
  case retypeLastDefault e n =>
    exact step_retype h fun _ hts => h.withToks (Nat.le_of_eq (length_retype hts).symm) (last_start_of_map (retype_starts hts))
  case insertSepBeforeLastDefault =>
    exact step_insertSep h fun _ hts => h.withToks (by rw [(insertSep_last hts).1]; omega) (insertSep_last hts).2
  case checkpoint =>
    refine ⟨h.first, fun c hc => ?_⟩
    cases hc
    exact ⟨List.length_pos_iff.mpr h.ne, Nat.le_refl _⟩
  case clearCheckpoint => exact ⟨h.first, nofun⟩
  case bumpCheckpointModeLen n => exact ⟨h.first, step_bump h.cp fun _ => id⟩
  case rollback =>
    simp only [step, Lexer.rollback]; split
    · rename_i c hc
      obtain ⟨h1, h2⟩ := h.cp c hc
      exact ⟨(truncR_getLast _ _ h1 h2).symm ▸ h.first, nofun⟩
    · exact h.congr rfl rfl rfl
  case emitEofAtCursor =>
    exact KOld.bufAddToken (h.congr (lastLineOrAdd_src cfg L) (lastLineOrAdd_toksR cfg L) (lastLineOrAdd_cp cfg L)) _
  all_goals exact h.congr step_frame.src (step_frame.toksR rfl) (step_frame.cp rfl)

theorem run_KOld (cfg : Cfg) {α} (p : Prog α) (L : Lexer) (h : KOld L) : KOld (Prog.run cfg p L).2 :=
  run_inv cfg (step_KOld cfg) p L h

/-- bridge from the abstract state: a token exists and all checkpoints are good -/
theorem KOld.of_CInv {σ : CS} {L : Lexer} (h : CInv σ L) (hne : σ.ne = true)
    (hg : ∀ n t a, σ.cp = some (n, t, a) → n = true) : KOld L := by
  refine ⟨h.first (h.ne_iff.1 hne), fun c hc => ?_⟩
  match hs : σ.cp, h.cp with
  | none, (hn : L.cp = none) => exact absurd (hn.symm.trans hc) nofun
  | some (n, t, a), ⟨k, hk, h1, h2, _⟩ =>
    obtain rfl : k = c := Option.some.inj (hk.symm.trans hc)
    exact ⟨h1 (hg n t a hs), h2⟩

end SasLexer
