import SasLexer.Proofs.Model.DiscOpen
import SasLexer.Lex.Main
/-! # The scanning discipline holds of the whole control logic: `lex_token`, the main loop, the loop of `finalize_lexing`
(its last primitive, the `EOF`, is outside `awp`: `finalizeLexing_final` in `DiscTop.lean` takes that step by hand) -/
namespace SasLexer

theorem dispatchMacroMode_awp (cfg : Cfg) (c : Char) (m : Mode) (t : List Char)
    {Q : Unit → List Char → Bool → Prop} (hQ : ∀ r', Q () r' false) :
    awp (dispatchMacroMode cfg c m) Q (c :: t) false := by
  cases m with
  | macroEval f p => exact dispatchModeMacroEval_awp cfg c f p t hQ
  | macroStrQuotedExpr mm p => exact dispatchMacroStrQuotedExpr_awp cfg c mm p t hQ
  | maybeMacroCallArgsOrLabel b => exact lexMaybeMacroCallArgsOrLabel_awp cfg c b t hQ
  | maybeMacroCallArgAssign f => exact lexMaybeMacroCallArgAssign_awp cfg c f t hQ
  | maybeTailMacroArgValue => exact lexMaybeTailMacroCallArgValue_awp cfg c t hQ
  | macroCallArgOrValue f => exact dispatchMacroCallArgOrValue_awp cfg c f t hQ
  | macroCallValue f p => exact dispatchMacroCallArgValue_awp cfg c f p t hQ
  | maybeMacroDefArgs => exact lexMaybeMacroDefArgs_awp cfg c t hQ
  | macroDefArg => exact (dispatchMacroDefArg_safe cfg c).awp fun _ => hQ
  | macroDefNextArgOrDefaultValue => exact lexMacroDefNextArgOrDefaultValue_awp cfg c t hQ
  | macroDo => exact dispatchMacroDo_awp cfg c t hQ
  | macroLocalGlobal l => exact dispatchMacroLocalGlobal_awp cfg c l t hQ
  | macroNameExpr f e => exact dispatchMacroNameExpr_awp cfg c f e t hQ
  | macroSemiTerminatedTextExpr => exact dispatchMacroSemiTermTextExpr_awp cfg c t hQ
  | macroStatOptionsTextExpr => exact dispatchMacroStatOptsTextExpr_awp cfg c t hQ
  | macroDefName =>
    exact ((Inert.startToken.safe.bind fun _ => (lexMacroDefIdentifier_safe cfg c false).bind fun _ =>
      Inert.popMode.safe).awp fun _ => hQ)
  | _ => exact awp.pure_iff.2 (hQ _)

theorem lexToken_awp (cfg : Cfg) (c : Char) (t : List Char)
    {Q : Unit → List Char → Bool → Prop} (hQ : ∀ r', Q () r' false) :
    awp (lexToken cfg c) Q (c :: t) false := by
  refine awp.of_lag (fun _ => hQ) ?_
  unfold lexToken
  awp_auto [lexCStyleComment_awp', (lexWs_safe _).awp, dispatchModeDefault_awp, lexExpectedToken_safe,
    dispatchModeStrExpr_awp, dispatchMacroMode_awp]
  awp_done

theorem Inert.forIn_list {β γ : Type} (f : γ → β → Prog (ForInStep β)) (hf : ∀ x b, Inert (f x b)) :
    ∀ (l : List γ) (b : β), Inert (forIn l b f)
  | [], b => by simp only [List.forIn_nil]; exact Inert.pure b
  | x :: l, b => by
    simp only [List.forIn_cons]
    refine Inert.bind (hf x b) ?_
    intro s
    cases s with
    | done b' => exact Inert.pure b'
    | yield b' => exact Inert.forIn_list f hf l b'

theorem lexExpectedToken_none_inert (cfg : Cfg) (ty : TokenType) (ch : Channel) :
    Inert (lexExpectedToken cfg none ty ch) := by
  unfold lexExpectedToken
  have hne : ∀ ec : Char, ((none : Option Char) != some ec) = true := by intro ec; rfl
  simp only [hne, if_true, Option.isSome_none, Bool.false_eq_true, if_false, P.peek]
  inert
  all_goals (first | exact expectedCharAndError_ne_eof ‹_› ‹_› | (simp_all; done))

theorem forRParen_inert (pnl : Nat) :
    Inert (forIn [0:pnl] PUnit.unit fun (_ : Nat) (_ : PUnit) => do
      P.emitD .RPAREN
      pure (ForInStep.yield PUnit.unit)) := by
  rw [Std.Legacy.Range.forIn_eq_forIn_range']
  apply Inert.forIn_list
  intro x b
  inert

theorem finalizeMode_inert (cfg : Cfg) (m : Mode) : Inert (finalizeMode cfg m) := by
  unfold finalizeMode
  refine Inert.bind Inert.startToken (fun _ => ?_)
  split <;> first
    | exact lexExpectedToken_none_inert _ _ _
    | (inert <;> first | exact forRParen_inert _ | exact handleUnterminatedStrExpr_inert _)

theorem finalizeLoop_inert (cfg : Cfg) : ∀ (f : Nat), Inert (finalizeLoop cfg f)
  | 0 => by unfold finalizeLoop; exact Inert.panic
  | f + 1 => by
    unfold finalizeLoop
    refine Inert.bind Inert.popModeRaw (fun o => ?_)
    split
    · exact Inert.pure _
    · exact Inert.bind (finalizeMode_inert _ _) (fun _ => finalizeLoop_inert cfg f)

/-- postcondition of the main loop: no line feed pending; ended at end of input ⇒ nothing left -/
def MainQ : LoopEnd × Nat → List Char → Bool → Prop := fun x r lag => lag = false ∧ (x.1 = .eof → r = [])

theorem mainLoop_awp (cfg : Cfg) : ∀ (f n : Nat) (last : Nat × List Mode) (r : List Char),
    awp (mainLoop cfg f n last) MainQ r false
  | 0, n, last, r => by
    unfold mainLoop
    rcases r with _ | ⟨c, t⟩ <;> awp_auto [] <;> simp_all
  | f + 1, n, last, r => by
    unfold mainLoop
    have ih := fun n last r => mainLoop_awp cfg f n last r
    rcases r with _ | ⟨c, t⟩ <;> awp_auto [lexToken_awp, ih]
    all_goals (first | (simp_all; done) | grind [MainQ])

end SasLexer
