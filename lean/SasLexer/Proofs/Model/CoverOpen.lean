import SasLexer.Proofs.Model.Cover
import SasLexer.Lex.Main
import SasLexer.Proofs.Model.FootprintFns
/-! # The open-code dispatcher always leaves a token that starts where the previous text ended (`cwp`)

Nothing here evaluates the abstract state through a program.  A scanner is cut into three stretches, each described
by the operations it may perform: statements that only *consume* (`Consumes`: the cursor moves, nothing else), the
statement that *emits* (`Emits.emit`, or a callee that emits), and statements that *keep* the token
(`Keeps HasTok`: anything but the final `EOF`).  `Emits.after` and `Emits.bind_keeps` glue the stretches. -/
namespace SasLexer
open Prog (perform)
open P

/-- every live checkpoint was taken when a token already existed -/
def cpGood (σ : CS) : Prop := ∀ n t a, σ.cp = some (n, t, a) → n = true

/-- nothing emitted: only the cursor may have moved -/
def Moved (σ σ' : CS) : Prop :=
  σ'.ne = σ.ne ∧ σ'.tokAt = σ.tokAt ∧ σ'.mark = σ.mark ∧ σ'.cp = σ.cp ∧ (σ'.atS = true → σ.atS = true) ∧
  (σ'.fresh = true → σ.fresh = true)

theorem Moved.refl (σ : CS) : Moved σ σ := ⟨rfl, rfl, rfl, rfl, id, id⟩

theorem Moved.trans {σ σ' σ'' : CS} (h : Moved σ σ') (h' : Moved σ' σ'') : Moved σ σ'' :=
  ⟨h'.1.trans h.1, h'.2.1.trans h.2.1, h'.2.2.1.trans h.2.2.1, h'.2.2.2.1.trans h.2.2.2.1,
    fun a => h.2.2.2.2.1 (h'.2.2.2.2.1 a), fun a => h.2.2.2.2.2 (h'.2.2.2.2.2 a)⟩

/-- inside a token: one exists already, or the pending one starts at the BOM end; every live checkpoint is good -/
def InTok (σ : CS) : Prop := (σ.ne = true ∨ σ.tokAt = true) ∧ cpGood σ

/-- a token exists, and every live checkpoint is good -/
def HasTok (σ : CS) : Prop := σ.ne = true ∧ cpGood σ

theorem HasTok.inTok {σ : CS} (h : HasTok σ) : InTok σ := ⟨.inl h.1, h.2⟩

theorem Moved.inTok {σ σ' : CS} (h : Moved σ σ') (hI : InTok σ) : InTok σ' :=
  ⟨h.1 ▸ h.2.1 ▸ hI.1, fun n t a e => hI.2 n t a (h.2.2.2.1 ▸ e)⟩

theorem Moved.hasTok {σ σ' : CS} (h : Moved σ σ') (hI : HasTok σ) : HasTok σ' :=
  ⟨h.1 ▸ hI.1, fun n t a e => hI.2 n t a (h.2.2.2.1 ▸ e)⟩

/-! ### which operations keep which invariant -/

/-- the cursor moves, and the operations the abstract state does not see -/
def Op.movesOnly : Op → Bool
  | .advance | .advanceBy _ | .eatWhile _ => true
  | o => o.inert

theorem Moved.step {o : Op} {σ₀ : CS} (h : o.movesOnly = true) (σ : CS) (hI : Moved σ₀ σ) :
    cOk o σ ∧ Moved σ₀ (cNext o σ) := by
  unfold Op.movesOnly at h
  split at h
  iterate 3 exact ⟨trivial, hI.trans ⟨rfl, rfl, rfl, rfl, nofun, nofun⟩⟩
  exact inert_step h σ hI

/-- `movesOnly`, and the two operations that emit at the pending token start -/
def Op.keepsTok : Op → Bool
  | .emitToken .. | .updateLastToken .. => true
  | o => o.movesOnly

theorem InTok.step {o : Op} (h : o.keepsTok = true) (σ : CS) (hI : InTok σ) : cOk o σ ∧ InTok (cNext o σ) := by
  unfold Op.keepsTok at h
  split at h
  · exact ⟨hI.1, .inl rfl, hI.2⟩
  · exact ⟨hI.1, .inl rfl, hI.2⟩
  · exact (Moved.step h σ (.refl σ)).imp_right (·.inTok hI)

/-- everything but the `EOF` token of finalisation -/
def Op.notEof : Op → Bool
  | .emitEofAtCursor => false
  | _ => true

/-- once a token exists every operation keeps it, and keeps the checkpoints good: `rollback` returns to a checkpoint
taken when a token existed, `checkpoint` records that one exists -/
theorem HasTok.step {o : Op} (h : o.notEof = true) (σ : CS) (hI : HasTok σ) : cOk o σ ∧ HasTok (cNext o σ) := by
  by_cases hi : o.inert = true
  · exact inert_step hi σ hI
  -- the operations the state sees, in the order of `Op.inert`
  unfold Op.inert at hi
  split at hi
  · exact ⟨.inl hI.1, hI⟩
  · simp only [cNext]; split <;> exact ⟨trivial, hI⟩
  · exact ⟨trivial, hI⟩
  · exact ⟨.inl hI.1, rfl, hI.2⟩
  · simp only [cNext]; split <;> first | exact ⟨.inl hI.1, rfl, hI.2⟩ | exact ⟨.inl hI.1, hI⟩
  · exact ⟨.inl hI.1, rfl, hI.2⟩
  iterate 3 exact ⟨trivial, hI⟩
  · exact ⟨trivial, hI.1, fun n t a e => by cases e; exact hI.1⟩
  · exact ⟨trivial, hI.1, nofun⟩
  · simp only [cNext]; split
    · exact ⟨trivial, hI.2 _ _ _ ‹_›, nofun⟩
    · exact ⟨trivial, hI⟩
  · cases h
  · exact absurd rfl hi

/-- by its footprint (`FootprintFns.lean`): a function that performs ordinary primitives only never performs the final `EOF` -/
theorem HasTok.of_uses {α} {p : Prog α} (h : p.Uses (·.notEof = true) fun _ _ => True) : Keeps HasTok p :=
  .of_uses (fun _ => HasTok.step) h

theorem Ordinary.notEof {sep : Bool} (o : Op) (h : Ordinary sep o) : o.notEof = true := by
  unfold Op.notEof
  split
  · cases h.2
  · rfl

/-! ### the three stretches of a scanner -/

/-- the program emits a token: from any in-token state it ends with a token present and good checkpoints -/
def Emits {α} (p : Prog α) : Prop :=
  ∀ (R : List Char → Prop) (Q : α → CS → Prop) (σ : CS), (σ.ne = true ∨ σ.tokAt = true) → cpGood σ →
    (∀ a σ', σ'.ne = true → cpGood σ' → Q a σ') → cwp R p Q σ

/-- the program only consumes -/
abbrev Consumes {α} (p : Prog α) : Prop := ∀ σ₀, Keeps (Moved σ₀) p

/-- from a state with a token (and good checkpoints) the program keeps both -/
def KeepsNe {α} (p : Prog α) : Prop :=
  ∀ (R : List Char → Prop) (Q : α → CS → Prop) (σ : CS), σ.ne = true → cpGood σ →
    (∀ a σ', σ'.ne = true → cpGood σ' → Q a σ') → cwp R p Q σ

theorem Emits.keeps {α} {p : Prog α} (h : Emits p) : KeepsNe p := fun R Q σ hn hg hQ => h R Q σ (Or.inl hn) hg hQ

/-- emitted something, or nothing at all happened -/
def EmittedOrSame (σ σ' : CS) : Prop := (σ'.ne = true ∧ cpGood σ') ∨ σ' = σ

theorem Consumes.op {o : Op} (h : o.movesOnly = true) : Consumes (perform o) := fun _ => .op (Moved.step h)

/-- a consuming program keeps whatever moving the cursor does not disturb -/
theorem Consumes.keeps {α} {p : Prog α} {I : CS → Prop} (h : Consumes p) (hI : ∀ {σ σ'}, Moved σ σ' → I σ → I σ') :
    Keeps I p :=
  .of_forall fun σ₀ hσ₀ => (h σ₀).imp (fun _ e => e ▸ .refl σ₀) fun _ _ hm => hI hm hσ₀

theorem KeepsNe.of_keeps {α} {p : Prog α} (h : Keeps HasTok p) : KeepsNe p :=
  fun _ _ _ hn hg hQ => h.cwp ⟨hn, hg⟩ fun a σ' h' => hQ a σ' h'.1 h'.2

namespace Emits
variable {α β : Type}

theorem triple {p : Prog α} (h : Emits p) : Triple InTok p fun _ => HasTok := by
  unfold Triple
  exact fun R Q σ hI hQ => h R Q σ hI.1 hI.2 fun a σ' hn hg => hQ a σ' ⟨hn, hg⟩

theorem of_triple {p : Prog α} (h : Triple InTok p fun _ => HasTok) : Emits p :=
  fun _ _ _ hT hg hQ => h.cwp ⟨hT, hg⟩ fun a σ' h' => hQ a σ' h'.1 h'.2

theorem emit {ch : Channel} {ty : TokenType} {pl : PaySpec} : Emits (perform (.emitToken ch ty pl)) :=
  of_triple (.op fun _ h => ⟨h.1, rfl, h.2⟩)

theorem panic {m : String} : Emits (perform (.panic m)) := fun _ _ _ _ _ _ => cwp.panic_iff.2 trivial

/-- a stretch that stays inside the token, then one that emits -/
theorem after_tok {p : Prog α} {f : α → Prog β} (hp : Keeps InTok p) (hf : ∀ a, Emits (f a)) : Emits (p >>= f) :=
  of_triple (Triple.bind hp fun a => (hf a).triple)

theorem after {p : Prog α} {f : α → Prog β} (hp : Consumes p) (hf : ∀ a, Emits (f a)) : Emits (p >>= f) :=
  after_tok (hp.keeps Moved.inTok) hf

theorem bind_keeps {p : Prog α} {f : α → Prog β} (hp : Emits p) (hf : ∀ a, Keeps HasTok (f a)) : Emits (p >>= f) :=
  of_triple (hp.triple.bind hf)

theorem ite {c : Prop} [Decidable c] {p q : Prog α} (hp : Emits p) (hq : Emits q) : Emits (if c then p else q) := by
  split <;> assumption

end Emits

/-- `true`: a token was emitted; `false`: still inside the pending token -/
abbrev EmitsIf (p : Prog Bool) : Prop := Triple InTok p (cond · HasTok InTok)

theorem EmitsIf.of_emits {p : Prog Bool} (h : Emits p) : EmitsIf p :=
  h.triple.imp (fun _ => id) fun b _ h' => by cases b <;> first | exact h' | exact h'.inTok

/-- the caller emits what the callee declined to -/
theorem Emits.unless {p : Prog Bool} {q : Prog Unit} (hp : EmitsIf p) (hq : Emits q) : Emits (do if !(← p) then q) :=
  .of_triple (hp.bind fun b => by cases b <;> first | exact hq.triple | exact .pure _ fun _ => id)

attribute [irreducible] Emits KeepsNe

/-- `emits [callee lemmas]` proves `Emits p` by walking `p`: statements that only consume, then the first that does
not, which has to emit (`emit`, or a callee in the list), then statements that keep the token -/
syntax "emits" "[" term,* "]" : tactic
macro_rules
  | `(tactic| emits [$ls,*]) => `(tactic| repeat' (first
      | with_reducible (first | apply Emits.ite | (first $[| apply $ls]*))
      | ((with_reducible refine Emits.after ?c fun _ => ?_); case c => (intro _; keeps Moved.step [$ls,*]))
      | exact Emits.emit
      | ((with_reducible refine Emits.bind_keeps ?_ fun _ => ?k); case k => keeps HasTok.step [$ls,*])
      | split
      | dsimp only))

theorem lexWsLoop_cons : ∀ (f : Nat), Consumes (lexWsLoop f)
  | 0, _ => .op (Moved.step rfl)
  | f + 1, σ₀ => by
    have ih := lexWsLoop_cons f σ₀
    unfold lexWsLoop peek
    keeps Moved.step [ih]

theorem lexWs_emits (cfg : Cfg) : Emits (lexWs cfg) := by
  unfold lexWs dbg peek fuelOfRest
  emits [lexWsLoop_cons _]

theorem lexCStyleLoop_cons : ∀ (f : Nat), Consumes (lexCStyleLoop f)
  | 0, _ => by unfold lexCStyleLoop; keeps Moved.step []
  | f + 1, σ₀ => by
    have ih := lexCStyleLoop_cons f σ₀
    unfold lexCStyleLoop peek advance_
    keeps Moved.step [ih]

theorem lexCStyleComment_emits (cfg : Cfg) : Emits (lexCStyleComment cfg) := by
  unfold lexCStyleComment dbg peekIs peekNext peek advance_ fuelOfRest
  emits [lexCStyleLoop_cons _]

theorem lexStringExpressionStart_emits (cfg : Cfg) (b : Bool) : Emits (lexStringExpressionStart cfg b) := by
  unfold lexStringExpressionStart dbg peekIs peek advance_
  emits []

theorem resolveStringLiteralEnding_cons : Consumes resolveStringLiteralEnding := by
  intro _
  unfold resolveStringLiteralEnding peek peekNext advance_
  keeps Moved.step []

theorem lexSingleQuotedLoop_cons : ∀ (f : Nat), Consumes (lexSingleQuotedLoop f)
  | 0, _ => by unfold lexSingleQuotedLoop; keeps Moved.step []
  | f + 1, σ₀ => by
    have ih := lexSingleQuotedLoop_cons f σ₀
    unfold lexSingleQuotedLoop peek advance_
    keeps Moved.step [ih]

theorem lexSingleQuotedStr_emits (cfg : Cfg) : Emits (lexSingleQuotedStr cfg) := by
  unfold lexSingleQuotedStr dbg peekIs peek advance_ fuelOfRest
  emits [lexSingleQuotedLoop_cons _, resolveStringLiteralEnding_cons]

theorem emitResolveOps_keeps (ks : List Nat) : Keeps HasTok (emitResolveOps ks) :=
  HasTok.of_uses (emitResolveOps_fp (cfg := default) Ordinary.notEof ks)

theorem emitResolveOps_emits : ∀ (ks : List Nat), ks ≠ [] → Emits (emitResolveOps ks)
  | [], h => absurd rfl h
  | k :: ks, _ => by
    unfold emitResolveOps
    emits [emitResolveOps_keeps ks]

theorem lexMacroVarExprLoop_keeps (f : Nat) (st : List Nat) : Keeps HasTok (lexMacroVarExprLoop f st) :=
  HasTok.of_uses (lexMacroVarExprLoop_fp (cfg := default) Ordinary.notEof f st)

/-- an `&`-run in front of a name, in a source below 4 GiB, has a non-empty list of resolve operations: the count
`n` is its own sum of powers of two as long as `1 ≤ n < 2 ^ 32` -/
theorem resolveOps_ne_nil {r : List Char} {b : Bool} {n : Nat} (hs : SmallRest r) (hh : r.head? = some '&')
    (h : isMacroAmp r 0 = (b, n)) : resolveOps n ≠ [] := by
  have h1 : 1 ≤ n := by
    cases r with
    | nil => cases hh
    | cons c t => cases hh; exact (isMacroAmp_take t 1 h).1
  have h2 := isMacroAmp_le r 0 h
  intro he
  have := sumPow_bits n 32
  rw [show (List.range 32).reverse.filter _ = resolveOps n from rfl, he] at this
  unfold SmallRest at hs
  simp only [sumPow, List.map_nil, List.sum_nil] at this
  omega

theorem lexMacroCommentLoop_cons : ∀ (f : Nat) (q : Quote), Consumes (lexMacroCommentLoop f q)
  | 0, _, _ => .op (Moved.step rfl)
  | f + 1, q, σ₀ => by
    have ih := fun q => lexMacroCommentLoop_cons f q σ₀
    unfold lexMacroCommentLoop
    keeps Moved.step [ih _]

theorem lexMacroComment_emits (cfg : Cfg) : Emits (lexMacroComment cfg) := by
  unfold lexMacroComment dbg peekIs peekNext peek advance_ fuelOfRest
  emits [lexMacroCommentLoop_cons _ _]

theorem lexNumericLiteral_emits (cfg : Cfg) (sd : Bool) : Emits (lexNumericLiteral cfg sd) := by
  unfold lexNumericLiteral dbg peek advance_ abort
  emits [Emits.panic]

theorem lexCharFormat_emitsIf : EmitsIf lexCharFormat := by
  unfold lexCharFormat
  refine .bind (.op (InTok.step rfl)) fun r => ?_
  split
  · exact .pure _ fun _ => id
  · exact .bind (.op (InTok.step rfl)) fun _ => EmitsIf.of_emits (.bind_keeps .emit fun _ => .pure _)

theorem predictedOpenLoop_cons : ∀ (f : Nat), Consumes (predictedOpenLoop f)
  | 0, _ => .op (Moved.step rfl)
  | f + 1, σ₀ => by
    have ih := predictedOpenLoop_cons f σ₀
    unfold predictedOpenLoop
    keeps Moved.step [ih]

theorem fuelOfRest_cons : Consumes fuelOfRest := fun _ => .bind (.op (Moved.step rfl)) fun _ => .pure _

theorem peek_cons : Consumes peek := fun _ => .bind (.op (Moved.step rfl)) fun _ => .pure _

/-- inside a token while a scan is tried out: a live checkpoint records a state inside the token (`cpGood` may fail:
`ne` may still be `false`) -/
def Trying (σ : CS) : Prop := (σ.ne = true ∨ σ.tokAt = true) ∧ ∀ n t a, σ.cp = some (n, t, a) → n = true ∨ t = true

theorem Moved.trying {σ σ' : CS} (h : Moved σ σ') (hI : Trying σ) : Trying σ' :=
  ⟨h.1 ▸ h.2.1 ▸ hI.1, fun n t a e => hI.2 n t a (h.2.2.2.1 ▸ e)⟩

/-- a speculative scan: only consumes, and rolls back before it answers `false` -/
abbrev Speculates (p : Prog Bool) : Prop := Triple Trying p (cond · Trying InTok)

theorem predictedMacroLoop_spec : ∀ (f : Nat), Speculates (predictedMacroLoop f)
  | 0 => .bind ((Consumes.op rfl).keeps Moved.trying) fun _ => .pure _ fun _ => id
  | f + 1 => by
    have ih := predictedMacroLoop_spec f
    have mv {o : Op} (h : o.movesOnly = true) : Keeps Trying (perform o) := (Consumes.op h).keeps Moved.trying
    have rb : Triple Trying (perform .rollback) fun _ => InTok := .op fun σ h => by
      refine ⟨trivial, ?_⟩
      simp only [cNext]
      split
      · exact ⟨h.2 _ _ _ ‹_›, nofun⟩
      · exact ⟨h.1, fun n t a e => by simp_all⟩
    unfold predictedMacroLoop
    refine .bind (mv rfl) fun c => ?_
    split
    · exact .pure _ fun _ => id
    · exact .ite (.bind (mv rfl) fun _ => ih) (.bind (peek_cons.keeps Moved.trying) fun _ =>
        .ite (.bind rb fun _ => .pure _ fun _ => id) (.ite (.pure _ fun _ => id) ih))

theorem lexPredictedComment_emitsIf : EmitsIf lexPredictedComment := by
  have tail : Emits (do emit .COMMENT .PredictedCommentStat; pure true) := .bind_keeps .emit fun _ => .pure _
  unfold lexPredictedComment
  refine .bind (.op (InTok.step rfl)) fun _ => .ite (.pure _ fun _ => id) (.bind (.op (InTok.step rfl)) fun _ => .ite ?_ ?_)
  · exact .bind (fuelOfRest_cons.keeps Moved.inTok) fun _ => .bind ((predictedOpenLoop_cons _).keeps Moved.inTok) fun _ =>
      EmitsIf.of_emits tail
  · refine .bind (.op (J := Trying) fun _ h => ⟨trivial, h.1, fun _ _ _ e => by cases e; exact h.1⟩) fun _ => ?_
    refine .bind (fuelOfRest_cons.keeps Moved.trying) fun n => .bind (predictedMacroLoop_spec n) fun ok => ?_
    cases ok
    · exact .pure _ fun _ => id
    · exact .bind (.op (J := InTok) fun _ h => ⟨trivial, h.1, nofun⟩) fun _ => EmitsIf.of_emits tail

/-- `lex_macro_var_expr` entered on an `&` (known from the dispatcher's peek, no cursor move since): `true` ⇒ it
emitted; `false` ⇒ nothing happened -/
theorem lexMacroVarExpr_cov (cfg : Cfg) (R : List Char → Prop) (hR : ∀ r, R r → r.head? = some '&')
    {Q : Bool → CS → Prop} {σ : CS} (hf : σ.fresh = true) (hT : σ.ne = true ∨ σ.tokAt = true) (hg : cpGood σ)
    (hQt : ∀ σ', σ'.ne = true → cpGood σ' → Q true σ') (hQf : Q false σ) :
    cwp R (lexMacroVarExpr cfg) Q σ := by
  have hd : Keeps (· = σ) (dbg cfg (peekIs '&') "lex_macro_var_expr: peek == '&'") := by
    unfold dbg peekIs peek; keeps inert_step []
  unfold lexMacroVarExpr
  refine cwp.bind_iff.2 (hd.cwp rfl fun _ σ' e => e ▸ cwp.rest_bind_iff.2 fun r hs hr => ?_)
  -- `r` starts with `&`: if a name follows the `&`s there is something to resolve
  rcases h : isMacroAmp r 0 with ⟨_ | _, n⟩
  · exact cwp.pure_iff.2 hQf
  · have hne := resolveOps_ne_nil hs (hR r (hr hf)) h
    refine cwp.bind_iff.2 ((emitResolveOps_emits _ hne).triple.cwp ⟨hT, hg⟩ fun _ σ₁ h₁ => ?_)
    refine cwp.bind_iff.2 ((fuelOfRest_cons.keeps Moved.hasTok).cwp h₁ fun _ σ₂ h₂ => ?_)
    exact cwp.bind_iff.2 ((lexMacroVarExprLoop_keeps _ _).cwp h₂ fun _ σ₃ h₃ => cwp.pure_iff.2 (hQt σ₃ h₃.1 h₃.2))

theorem datalinesToSemiLoop_cons : ∀ (f : Nat), Consumes (datalinesToSemiLoop f)
  | 0, _ => .op (Moved.step rfl)
  | f + 1, σ₀ => by
    have ih := datalinesToSemiLoop_cons f σ₀
    unfold datalinesToSemiLoop
    keeps Moved.step [ih]

theorem datalinesBodyLoop_keeps (e : List Char) (f : Nat) : Keeps HasTok (datalinesBodyLoop e f) :=
  HasTok.of_uses (datalinesBodyLoop_fp (cfg := default) Ordinary.notEof f)

theorem lexDatalines_emitsIf (cfg : Cfg) (is4 : Bool) : EmitsIf (lexDatalines cfg is4) := by
  unfold lexDatalines fuelOfRest
  dsimp only
  -- reads that may answer `false`; the part behind them emits three tokens
  have tail {p : Prog Bool} (hp : Emits p) : EmitsIf (do
      let r ← rest
      if !datalinesForwardCheck r then pure false else p) :=
    .bind (.op (InTok.step rfl)) fun _ => .ite (.pure _ fun _ => id) (EmitsIf.of_emits hp)
  have body {p : Prog Bool} (hp : EmitsIf p) : EmitsIf (do
      match (← perform .lastDefaultTok) with
      | some ty => if ty != .SEMI then pure false else p
      | none => p) :=
    .bind (.op (InTok.step rfl)) fun _ => by split <;> first | exact .ite (.pure _ fun _ => id) hp | exact hp
  refine .ite (.bind (.op (InTok.step rfl)) fun _ => .bind (.op (InTok.step rfl)) fun _ => body (tail ?_)) (body (tail ?_)) <;>
    emits [datalinesToSemiLoop_cons _, datalinesBodyLoop_keeps _ _]

theorem lexIdentifier_emits (cfg : Cfg) : Emits (lexIdentifier cfg) := by
  unfold lexIdentifier dbg peek
  emits [Emits.unless (lexDatalines_emitsIf cfg _)]

theorem lexSymbols_emits (cfg : Cfg) (c : Char) : Emits (lexSymbols cfg c) := by
  unfold lexSymbols advance_ peek peekNext
  emits [lexNumericLiteral_emits _ _, Emits.unless lexPredictedComment_emitsIf, Emits.unless lexCharFormat_emitsIf]

theorem maybeExpectMacroCallArgsOrLabel_keeps (b : Bool) : KeepsNe (maybeExpectMacroCallArgsOrLabel b) := by
  refine .of_keeps ?_
  unfold maybeExpectMacroCallArgsOrLabel
  keeps HasTok.step []

theorem macroCallOrStatPreload_keeps (ty : TokenType) (b : Bool) : Keeps HasTok (macroCallOrStatPreload ty b) :=
  HasTok.of_uses (macroCallOrStatPreload_fp (cfg := default) Ordinary.notEof)

/-- a `MacroSep` in front, or none: the pending token stays pending or is there already -/
theorem maybeEmitMacroSepBeforeKw_keeps (ty : TokenType) : Keeps InTok (maybeEmitMacroSepBeforeKw ty) := by
  unfold maybeEmitMacroSepBeforeKw
  keeps InTok.step []

theorem dispatchMacroCallOrStat_emits (cfg : Cfg) (ty : TokenType) (b : Bool) : Emits (dispatchMacroCallOrStat cfg ty b) := by
  have tail : Emits (do
      emit (if tokOneOf ty [.KwmStr, .KwmNrStr] then .HIDDEN else .DEFAULT) ty
      macroCallOrStatPreload ty b) := .bind_keeps .emit fun _ => macroCallOrStatPreload_keeps ty b
  unfold dispatchMacroCallOrStat
  exact .ite (.after_tok (maybeEmitMacroSepBeforeKw_keeps ty) fun _ => tail) tail

theorem lexMacroIdentifier_emits (cfg : Cfg) (b : Bool) : Emits (lexMacroIdentifier cfg b) := by
  unfold lexMacroIdentifier dbg peekIs peekNext peek advance_
  emits [dispatchMacroCallOrStat_emits _ _ _]

/-- **the open-code dispatcher always leaves a token behind**: entered at a token boundary where either a token
exists or the cursor has not moved (`ne ∨ atS`), with `c` the next character, it returns with a token present (and
only good checkpoints) -/
theorem dispatchModeDefault_cov (cfg : Cfg) (c : Char) {Q : Unit → CS → Prop} {σ : CS}
    (hf : σ.fresh = true) (hG : σ.ne = true ∨ σ.atS = true) (hg : cpGood σ)
    (hQ : ∀ a σ', σ'.ne = true → cpGood σ' → Q a σ') :
    cwp (fun r => r.head? = some c) (dispatchModeDefault cfg c) Q σ := by
  have hd : Keeps (· = σ) (dbg cfg (do pure ((← mode) == .default)) "dispatch_mode_default: mode") := by
    unfold dbg; keeps inert_step []
  unfold dispatchModeDefault
  -- `startToken` puts the pending start where the cursor is
  refine cwp.bind_iff.2 (hd.cwp rfl fun _ _ e => e ▸ cwp.bind_iff.2 (cwp.perform_intro hG fun _ => ?_))
  have hI : InTok (cNext .startToken σ) := ⟨hG, hg⟩
  have hQ' : ∀ a σ', HasTok σ' → Q a σ' := fun a σ' h => hQ a σ' h.1 h.2
  by_cases hc : c = '&'
  · -- the only scanner that needs to know what is in front of it
    subst hc
    -- `&` is the sixth character test of `dispatch_mode_default`
    rw [if_neg (by decide), if_neg (by decide), if_neg (by decide), if_neg (by decide), if_neg (by decide), if_pos (by decide)]
    refine cwp.bind_iff.2 (lexMacroVarExpr_cov cfg _ (fun _ h => h) hf hI.1 hI.2 (fun σ' hn hg' => ?_) ?_)
    · exact (Triple.op (HasTok.step rfl)).cwp ⟨hn, hg'⟩ hQ'
    · exact (Emits.after (.op rfl) fun _ => .bind_keeps .emit fun _ => .op (HasTok.step rfl)).triple.cwp hI hQ'
  · have hc' : (c == '&') = false := by simpa using hc
    simp only [hc', Bool.false_eq_true, if_false]
    refine Emits.triple ?_ |>.cwp hI hQ'
    unfold advance_ peekNext lastTokTy
    emits [lexWs_emits _, lexSingleQuotedStr_emits _, lexStringExpressionStart_emits _ _, lexCStyleComment_emits _,
      lexMacroComment_emits _, lexMacroIdentifier_emits _ _, lexNumericLiteral_emits _ _, lexIdentifier_emits _,
      lexSymbols_emits _ _]

/-! ### finalisation: never moves the cursor, every token it emits is preceded by `startToken` -/

/-- boundary states: a token exists or nothing has been consumed -/
def Bnd (σ : CS) : Prop := σ.ne = true ∨ σ.atS = true

/-- a boundary state whose pending token starts at the cursor -/
def AtTok (σ : CS) : Prop := σ.ne = true ∨ (σ.tokAt = true ∧ σ.atS = true)

/-- `startToken`, the two operations that emit at the pending token start, and what the abstract state does not see -/
def Op.keepsAtTok : Op → Bool
  | .startToken | .emitToken .. | .updateLastToken .. => true
  | o => o.inert

theorem AtTok.step {o : Op} (h : o.keepsAtTok = true) (σ : CS) (hI : AtTok σ) : cOk o σ ∧ AtTok (cNext o σ) := by
  unfold Op.keepsAtTok at h
  split at h
  · exact ⟨hI.imp_right (·.2), hI.imp_right fun h => ⟨h.2, h.2⟩⟩
  · exact ⟨hI.imp_right (·.1), .inl rfl⟩
  · exact ⟨hI.imp_right (·.1), .inl rfl⟩
  · exact inert_step h σ hI

theorem lexExpectedToken_none_keeps (cfg : Cfg) (ty : TokenType) (ch : Channel) :
    Keeps AtTok (lexExpectedToken cfg none ty ch) := by
  unfold lexExpectedToken peek
  have hne : ∀ ec : Char, ((none : Option Char) != some ec) = true := fun _ => rfl
  simp only [hne, if_true]
  keeps AtTok.step []

theorem handleUnterminatedStrExpr_keeps (cfg : Cfg) : Keeps AtTok (handleUnterminatedStrExpr cfg) := by
  unfold handleUnterminatedStrExpr lastTokIsStart dbg peek lastTokTy
  keeps AtTok.step []

theorem forRParen_keeps : ∀ (l : List Nat), Keeps AtTok (forIn l PUnit.unit fun (_ : Nat) (_ : PUnit) => do
      P.emitD .RPAREN
      pure (ForInStep.yield PUnit.unit))
  | [] => .pure _
  | _ :: l => by
    have ih := forRParen_keeps l
    simp only [List.forIn_cons]
    keeps AtTok.step [ih]

theorem finalizeMode_keeps (cfg : Cfg) (m : Mode) : Keeps Bnd (finalizeMode cfg m) := by
  unfold finalizeMode
  simp only [Std.Legacy.Range.forIn_eq_forIn_range']
  -- at a boundary `startToken` is allowed, and what follows finds the pending token at the cursor
  have st : Triple Bnd startToken fun _ => AtTok := .op fun _ h => ⟨h, h.imp_right fun a => ⟨a, a⟩⟩
  refine (st.bind fun _ => ?_).imp (fun _ => id) fun _ _ (h : AtTok _) => h.imp_right (·.2)
  keeps AtTok.step [lexExpectedToken_none_keeps _ _ _, handleUnterminatedStrExpr_keeps _, forRParen_keeps _]

theorem finalizeLoop_keeps (cfg : Cfg) : ∀ (f : Nat), Keeps Bnd (finalizeLoop cfg f)
  | 0 => .op (inert_step rfl)
  | f + 1 => by
    have ih := finalizeLoop_keeps cfg f
    unfold finalizeLoop
    keeps inert_step [ih, finalizeMode_keeps _ _]

theorem finalizeLoop_bnd (cfg : Cfg) (R : List Char → Prop) : ∀ (f : Nat) {Q : Unit → CS → Prop} {σ : CS},
    Bnd σ → (∀ σ', Bnd σ' → Q () σ') → cwp R (finalizeLoop cfg f) Q σ :=
  fun f _ _ hB hQ => (finalizeLoop_keeps cfg f).cwp hB fun _ => hQ

end SasLexer
