import SasLexer.Prog
import SasLexer.Proofs.Attr
/-!
# The scanning discipline as a predicate on programs (`awp`)

`awp p Q r lag` is a weakest precondition over an *abstract* state that consists only of the
text still in front of the cursor (`r`) and one flag (`lag`: a line feed has just been consumed
and its line start has not been recorded yet).  It demands of the program `p`, for **every**
response the non-cursor operations might give (mode stack, look-behind, registers, ... are all
universally quantified):

* after an `advance` that returned a line feed the next state-changing operation is `addLine`,
  and `addLine` is performed at no other time;
* `advanceBy n` skips no line feed, `eatWhile p` has a predicate that rejects line feeds;
* no token of type `EOF` is ever emitted, retyped or inserted by the control logic (the single
  `EOF` is appended by `finalize_lexing`'s last primitive, which is not allowed inside `p`);
* when `p` returns, no line feed is pending and `Q` holds of the result and the remaining text.

It is a *static* property of the program tree (what is tracked is exactly what the program
itself could have read through `rest`), so proving it for a scanner is symbolic evaluation of
that scanner.  `Proofs/Model/DiscSound.lean` shows what it buys: for every program with
`awp`, every run keeps the line table exact (C04) and emits no `EOF` (C02).
-/
namespace SasLexer

/-- operations that change nothing but (possibly) the ghost field `panicked` -/
def Op.isRead : Op → Bool
  | .rest | .lastTok | .lastDefaultTok | .secondLastDefaultTok | .hasCheckpoint | .nesting
  | .modeDepth | .hasMark | .litIsEmpty | .loopProbe | .dassert _ _ => true
  | _ => false

/-- side condition of one operation in abstract state `(r, lag)` -/
def dOk : Op → List Char → Bool → Prop
  | .addLine, _, lag => lag = true
  | .advanceBy n, r, lag => lag = false ∧ ∀ c ∈ r.take n, c ≠ '\n'
  | .eatWhile p, _, lag => lag = false ∧ p '\n' = false
  | .emitToken _ ty _, _, lag => lag = false ∧ ty ≠ .EOF
  | .emitTokenAtMark _ ty _, _, lag => lag = false ∧ ty ≠ .EOF
  | .updateLastToken _ ty _, _, lag => lag = false ∧ ty ≠ .EOF
  | .retypeLastDefault _ n, _, lag => lag = false ∧ n ≠ .EOF
  | .emitEofAtCursor, _, _ => False
  | .panic _, _, _ => True
  | o, _, lag => o.isRead = true ∨ lag = false

/-- which (response, remaining text, flag) an operation may produce from `(r, lag)` -/
def dPost : (o : Op) → List Char → Bool → Resp o → List Char → Bool → Prop
  | .rest, r, lag, resp, r', lag' => resp = r ∧ r' = r ∧ lag' = lag
  | .advance, r, _, resp, r', lag' =>
    match r with
    | [] => resp = none ∧ r' = [] ∧ lag' = false
    | c :: t => resp = some c ∧ r' = t ∧ lag' = (c == '\n')
  | .advanceBy n, r, _, _, r', lag' => r' = r.drop n ∧ lag' = false
  | .eatWhile p, r, _, _, r', lag' => r' = r.dropWhile p ∧ lag' = false
  | .addLine, r, _, _, r', lag' => r' = r ∧ lag' = false
  | .rollback, _, _, _, _, lag' => lag' = false
  | .panic _, _, _, _, _, _ => False
  | _, r, lag, _, r', lag' => r' = r ∧ lag' = lag

def awp {α : Type} : Prog α → (α → List Char → Bool → Prop) → List Char → Bool → Prop
  | .ret a, Q, r, lag => Q a r lag
  | .op o k, Q, r, lag =>
    dOk o r lag ∧ ∀ (resp : Resp o) (r' : List Char) (lag' : Bool), dPost o r lag resp r' lag' → awp (k resp) Q r' lag'

/-! ### Classes of operations

Seven operations have a clause of their own in `dPost` (`rest`, the cursor moves, `addLine`,
`rollback`, `panic`); each has its own rule below.  The others are *still*: text and flag stay, the
response is arbitrary.  What `dOk` asks of a still operation is one condition (`dOk_still`), so one
rule covers all reads and one all writes. -/

def Op.still : Op → Bool
  | .rest | .advance | .advanceBy _ | .eatWhile _ | .addLine | .rollback | .panic _ => false
  | _ => true

/-- the token type an operation writes into the token buffer -/
def Op.emits : Op → Option TokenType
  | .emitToken _ ty _ | .emitTokenAtMark _ ty _ | .updateLastToken _ ty _ | .retypeLastDefault _ ty => some ty
  | .emitEofAtCursor => some .EOF
  | _ => none

/-- still, no read, writes no token type: allowed exactly when no line feed is pending -/
def Op.isPlain (o : Op) : Bool := o.still && !o.isRead && o.emits.isNone

theorem dPost_still {o : Op} (h : o.still = true) {r lag resp r' lag'} :
    dPost o r lag resp r' lag' ↔ r' = r ∧ lag' = lag := by
  cases o <;> first | exact Iff.rfl | cases h

theorem dOk_still {o : Op} (h : o.still = true) {r lag} :
    dOk o r lag ↔ (o.isRead = true ∨ lag = false) ∧ o.emits ≠ some .EOF := by
  cases o <;> first | (simp [dOk, Op.isRead, Op.emits]; done) | cases h

theorem Op.emits_of_isRead {o : Op} (h : o.isRead = true) : o.emits = none := by
  cases o <;> first | rfl | cases h

namespace awp
variable {α β : Type}

theorem mono {p : Prog α} {Q Q' : α → List Char → Bool → Prop} (hQ : ∀ a r l, Q a r l → Q' a r l) :
    ∀ {r lag}, awp p Q r lag → awp p Q' r lag := by
  induction p with
  | ret a => intro r lag h; exact hQ _ _ _ h
  | op o k ih => intro r lag h; exact ⟨h.1, fun resp r' lag' hp => ih resp (h.2 resp r' lag' hp)⟩

theorem bind_iff {p : Prog α} {f : α → Prog β} {Q : β → List Char → Bool → Prop} :
    ∀ {r lag}, awp (p >>= f) Q r lag ↔ awp p (fun a r' lag' => awp (f a) Q r' lag') r lag := by
  induction p with
  | ret a => exact Iff.rfl
  | op o k ih =>
    exact and_congr_right' (forall_congr' fun resp => forall_congr' fun _ => forall_congr' fun _ =>
      imp_congr_right fun _ => ih resp)

@[simp] theorem pure_iff {a : α} {Q : α → List Char → Bool → Prop} {r lag} :
    awp (pure a : Prog α) Q r lag ↔ Q a r lag := Iff.rfl

@[simp] theorem ret_iff {a : α} {Q : α → List Char → Bool → Prop} {r lag} :
    awp (Prog.ret a) Q r lag ↔ Q a r lag := Iff.rfl

theorem op_iff {o : Op} {k : Resp o → Prog α} {Q : α → List Char → Bool → Prop} {r lag} :
    awp (Prog.op o k) Q r lag ↔
      dOk o r lag ∧ ∀ (resp : Resp o) (r' : List Char) (lag' : Bool), dPost o r lag resp r' lag' → awp (k resp) Q r' lag' :=
  Iff.rfl

section rules
variable {Q : α → List Char → Bool → Prop} {r : List Char} {lag : Bool} {o : Op} {k : Resp o → Prog α}

theorem op_still (h : o.still = true) :
    awp (Prog.op o k) Q r lag ↔ dOk o r lag ∧ ∀ resp, awp (k resp) Q r lag := by
  simp only [op_iff, dPost_still h]
  exact and_congr_right' ⟨fun H resp => H resp r lag ⟨rfl, rfl⟩, fun H resp r' lag' ⟨hr, hl⟩ => hr ▸ hl ▸ H resp⟩

/-- a read other than `rest`: any response, also while a line feed is pending -/
@[awp_simp] theorem op_read (h : (o.isRead && o.still) = true) :
    awp (Prog.op o k) Q r lag ↔ ∀ resp, awp (k resp) Q r lag := by
  rw [Bool.and_eq_true] at h
  rw [op_still h.2, dOk_still h.2, Op.emits_of_isRead h.1]
  simp [h.1]

/-- a still operation that is no read: not while a line feed is pending, and it writes no `EOF` -/
theorem op_write (h : (o.still && !o.isRead) = true) :
    awp (Prog.op o k) Q r lag ↔ (lag = false ∧ o.emits ≠ some .EOF) ∧ ∀ resp, awp (k resp) Q r false := by
  simp only [Bool.and_eq_true, Bool.not_eq_true'] at h
  rw [op_still h.1, dOk_still h.1]
  simp only [h.2, Bool.false_eq_true, false_or]
  exact ⟨fun ⟨h1, h2⟩ => ⟨h1, fun resp => h1.1 ▸ h2 resp⟩, fun ⟨h1, h2⟩ => ⟨h1, fun resp => h1.1 ▸ h2 resp⟩⟩

@[awp_simp] theorem op_plain (h : o.isPlain = true) :
    awp (Prog.op o k) Q r lag ↔ lag = false ∧ ∀ resp, awp (k resp) Q r false := by
  simp only [Op.isPlain, Bool.and_eq_true, Option.isNone_iff_eq_none] at h
  rw [op_write (Bool.and_eq_true _ _ ▸ h.1), h.2]
  simp

@[awp_simp] theorem op_emitToken {ch ty p} {k : Resp (.emitToken ch ty p) → Prog α} :
    awp (Prog.op (.emitToken ch ty p) k) Q r lag ↔ (lag = false ∧ ty ≠ .EOF) ∧ awp (k ()) Q r false :=
  (op_write rfl).trans (and_congr (by simp [Op.emits]) ⟨fun h => h (), fun h _ => h⟩)

@[awp_simp] theorem op_emitTokenAtMark {ch ty p} {k : Resp (.emitTokenAtMark ch ty p) → Prog α} :
    awp (Prog.op (.emitTokenAtMark ch ty p) k) Q r lag ↔ (lag = false ∧ ty ≠ .EOF) ∧ awp (k ()) Q r false :=
  (op_write rfl).trans (and_congr (by simp [Op.emits]) ⟨fun h => h (), fun h _ => h⟩)

@[awp_simp] theorem op_updateLastToken {ch ty p} {k : Resp (.updateLastToken ch ty p) → Prog α} :
    awp (Prog.op (.updateLastToken ch ty p) k) Q r lag ↔ (lag = false ∧ ty ≠ .EOF) ∧ awp (k ()) Q r false :=
  (op_write rfl).trans (and_congr (by simp [Op.emits]) ⟨fun h => h (), fun h _ => h⟩)

@[awp_simp] theorem op_retypeLastDefault {e n} {k : Resp (.retypeLastDefault e n) → Prog α} :
    awp (Prog.op (.retypeLastDefault e n) k) Q r lag ↔
      (lag = false ∧ n ≠ .EOF) ∧ ∀ b, awp (k b) Q r false :=
  (op_write rfl).trans (and_congr_left' (by simp [Op.emits]))

@[awp_simp] theorem op_dassert {c m} {k : Resp (.dassert c m) → Prog α} :
    awp (Prog.op (.dassert c m) k) Q r lag ↔ awp (k ()) Q r lag := by
  rw [op_read rfl]
  exact ⟨fun h => h (), fun h _ => h⟩

/-- an operation whose outcome is determined -/
theorem op_det (resp0 : Resp o) (r0 : List Char) (lag0 : Bool)
    (h : ∀ resp r' lag', dPost o r lag resp r' lag' ↔ resp = resp0 ∧ r' = r0 ∧ lag' = lag0) :
    awp (Prog.op o k) Q r lag ↔ dOk o r lag ∧ awp (k resp0) Q r0 lag0 := by
  refine and_congr_right' ⟨fun h2 => h2 _ _ _ ((h _ _ _).2 ⟨rfl, rfl, rfl⟩), fun h2 resp r' lag' hp => ?_⟩
  obtain ⟨rfl, rfl, rfl⟩ := (h _ _ _).1 hp
  exact h2

@[awp_simp] theorem op_rest {k : Resp .rest → Prog α} :
    awp (Prog.op .rest k) Q r lag ↔ awp (k r) Q r lag := by
  rw [op_det r r lag (fun _ _ _ => Iff.rfl)]
  simp [dOk, Op.isRead]

/-- the flag after an `advance` is *whether* a line feed was consumed: one path, decided where the next
operation needs it -/
@[awp_simp] theorem op_advance {k : Resp .advance → Prog α} :
    awp (Prog.op .advance k) Q r lag ↔ lag = false ∧ awp (k r.head?) Q r.tail (r.head? == some '\n') := by
  cases r with
  | nil => rw [op_det none [] false (fun _ _ _ => Iff.rfl)]; simp [dOk, Op.isRead]
  | cons c t => rw [op_det (some c) t (c == '\n') (fun _ _ _ => Iff.rfl)]; simp [dOk, Op.isRead]

/-- to go on after an `advance` with something that starts without a pending line feed -/
theorem of_no_lf {p : Prog α} {o : Option Char} (hl : (o == some '\n') = false) (h : awp p Q r false) :
    awp p Q r (o == some '\n') := hl ▸ h

@[awp_simp] theorem op_addLine {k : Resp .addLine → Prog α} :
    awp (Prog.op .addLine k) Q r lag ↔ lag = true ∧ awp (k ()) Q r false := by
  rw [op_det () r false (fun _ _ _ => by simp [dPost])]; simp [dOk]

@[awp_simp] theorem op_advanceBy {n : Nat} {k : Resp (.advanceBy n) → Prog α} :
    awp (Prog.op (.advanceBy n) k) Q r lag ↔
      (lag = false ∧ ∀ c ∈ r.take n, c ≠ '\n') ∧ awp (k ()) Q (r.drop n) false := by
  rw [op_det () (r.drop n) false (fun _ _ _ => by simp [dPost])]; simp [dOk]

@[awp_simp] theorem op_eatWhile {p : Char → Bool} {k : Resp (.eatWhile p) → Prog α} :
    awp (Prog.op (.eatWhile p) k) Q r lag ↔
      (lag = false ∧ p '\n' = false) ∧ awp (k ()) Q (r.dropWhile p) false := by
  rw [op_det () (r.dropWhile p) false (fun _ _ _ => by simp [dPost])]; simp [dOk]

@[awp_simp] theorem op_rollback {k : Resp .rollback → Prog α} :
    awp (Prog.op .rollback k) Q r lag ↔ lag = false ∧ ∀ r', awp (k ()) Q r' false := by
  refine and_congr (by simp [dOk, Op.isRead]) ⟨fun h r' => h () r' false rfl, fun h _ r' lag' hp => ?_⟩
  obtain rfl : lag' = false := hp
  exact h r'

/-- an unconditional panic ends the run: nothing is demanded of what follows -/
@[awp_simp] theorem op_panic {m} {k : Resp (.panic m) → Prog α} :
    awp (Prog.op (.panic m) k) Q r lag ↔ True := by
  rw [op_iff]
  simp [dOk, dPost]

@[awp_simp] theorem ite_iff {c : Prop} [Decidable c] {p q : Prog α} :
    awp (if c then p else q) Q r lag ↔ if c then awp p Q r lag else awp q Q r lag := by
  split <;> rfl

end rules

attribute [awp_simp] bind_iff pure_iff ret_iff

end awp

/- so that `simp` settles the side conditions of `op_read` and `op_plain` for a concrete operation -/
attribute [awp_simp] Op.isPlain Op.still Op.isRead Op.emits Bool.and_true Bool.true_and Bool.and_false
  Bool.false_and Bool.and_self Bool.not_false Bool.not_true Bool.false_eq_true Option.isNone_none Option.isNone_some

attribute [irreducible] awp

/-! ## `Inert`: programs that neither move the cursor nor emit `EOF` (mode-stack bookkeeping,
look-behind, errors, ordinary tokens).  Proved by rule application, so that large pre-loaders do
not duplicate their continuation. -/

def Inert {α : Type} (p : Prog α) : Prop :=
  ∀ (Q : α → List Char → Bool → Prop) (r : List Char), (∀ a, Q a r false) → awp p Q r false

/-- what an inert program may perform: `rest`, `panic`, and every still operation that writes no `EOF` -/
def Op.inertOk : Op → Bool
  | .rest | .panic _ => true
  | o => o.still && o.emits != some .EOF

namespace Inert
variable {α β : Type}

theorem pure (a : α) : Inert (Pure.pure a : Prog α) := fun _ _ hQ => awp.pure_iff.2 (hQ a)

theorem bind {p : Prog α} {f : α → Prog β} (hp : Inert p) (hf : ∀ a, Inert (f a)) : Inert (p >>= f) := by
  intro Q r hQ
  rw [awp.bind_iff]
  exact hp _ r (fun a => hf a Q r hQ)

theorem ite {c : Prop} [Decidable c] {p q : Prog α} (hp : Inert p) (hq : Inert q) : Inert (if c then p else q) := by
  split <;> assumption

theorem awp' {p : Prog α} (h : Inert p) {Q : α → List Char → Bool → Prop} {r : List Char}
    (hQ : ∀ a, Q a r false) : awp p Q r false := h Q r hQ

theorem op {o : Op} {k : Resp o → Prog α} (h : o.inertOk = true) (hk : ∀ resp, Inert (k resp)) :
    Inert (Prog.op o k) := by
  intro Q r hQ
  unfold Op.inertOk at h
  split at h
  · exact awp.op_rest.2 (hk r Q r hQ)
  · exact awp.op_panic.2 trivial
  · simp only [Bool.and_eq_true, bne_iff_ne] at h
    exact (awp.op_still h.1).2 ⟨(dOk_still h.1).2 ⟨.inr rfl, h.2⟩, fun resp => hk resp Q r hQ⟩

theorem perform {o : Op} (h : o.inertOk = true) : Inert (Prog.perform o) := op h pure

theorem startToken : Inert (Prog.perform .startToken) := perform rfl
theorem markIfNone : Inert (Prog.perform .markIfNone) := perform rfl
theorem clearMark : Inert (Prog.perform .clearMark) := perform rfl
theorem insertSepBeforeLastDefault : Inert (Prog.perform .insertSepBeforeLastDefault) := perform rfl
theorem emitError {e} : Inert (Prog.perform (.emitError e)) := perform rfl
theorem prepError {e} : Inert (Prog.perform (.prepError e)) := perform rfl
theorem emitPrepared : Inert (Prog.perform .emitPrepared) := perform rfl
theorem pushMode {m} : Inert (Prog.perform (.pushMode m)) := perform rfl
theorem popMode : Inert (Prog.perform .popMode) := perform rfl
theorem mode : Inert (Prog.perform .mode) := perform rfl
theorem popModeRaw : Inert (Prog.perform .popModeRaw) := perform rfl
theorem modifyTop {f} : Inert (Prog.perform (.modifyTop f)) := perform rfl
theorem modifyAt {i} {f} : Inert (Prog.perform (.modifyAt i f)) := perform rfl
theorem insertModeAt {i} {m} : Inert (Prog.perform (.insertModeAt i m)) := perform rfl
theorem checkpoint : Inert (Prog.perform .checkpoint) := perform rfl
theorem clearCheckpoint : Inert (Prog.perform .clearCheckpoint) := perform rfl
theorem bumpCheckpointModeLen {n} : Inert (Prog.perform (.bumpCheckpointModeLen n)) := perform rfl
theorem pushPending {b} : Inert (Prog.perform (.pushPending b)) := perform rfl
theorem popPending : Inert (Prog.perform .popPending) := perform rfl
theorem pendingStat : Inert (Prog.perform .pendingStat) := perform rfl
theorem setPending {b} : Inert (Prog.perform (.setPending b)) := perform rfl
theorem nestInc : Inert (Prog.perform .nestInc) := perform rfl
theorem nestDec : Inert (Prog.perform .nestDec) := perform rfl
theorem litBegin : Inert (Prog.perform .litBegin) := perform rfl
theorem litBeginAtTok : Inert (Prog.perform .litBeginAtTok) := perform rfl
theorem litCut : Inert (Prog.perform .litCut) := perform rfl
theorem litMarkEnd : Inert (Prog.perform .litMarkEnd) := perform rfl
theorem litResolve {n} : Inert (Prog.perform (.litResolve n)) := perform rfl
theorem litAddDecoded {cs} : Inert (Prog.perform (.litAddDecoded cs)) := perform rfl
theorem payClear : Inert (Prog.perform .payClear) := perform rfl
theorem panic {m} : Inert (Prog.perform (.panic m)) := perform rfl
theorem pendingText : Inert (Prog.perform .pendingText) := perform rfl
theorem pendingTextToMark : Inert (Prog.perform .pendingTextToMark) := perform rfl
theorem pendingTextWithPrev : Inert (Prog.perform .pendingTextWithPrev) := perform rfl
theorem lastTok : Inert (Prog.perform .lastTok) := perform rfl
theorem lastDefaultTok : Inert (Prog.perform .lastDefaultTok) := perform rfl
theorem secondLastDefaultTok : Inert (Prog.perform .secondLastDefaultTok) := perform rfl
theorem hasCheckpoint : Inert (Prog.perform .hasCheckpoint) := perform rfl
theorem nesting : Inert (Prog.perform .nesting) := perform rfl
theorem modeDepth : Inert (Prog.perform .modeDepth) := perform rfl
theorem hasMark : Inert (Prog.perform .hasMark) := perform rfl
theorem litIsEmpty : Inert (Prog.perform .litIsEmpty) := perform rfl
theorem loopProbe : Inert (Prog.perform .loopProbe) := perform rfl
theorem dassert {c} {m} : Inert (Prog.perform (.dassert c m)) := perform rfl
theorem rest : Inert (Prog.perform .rest) := perform rfl

theorem emitToken {ch ty p} (h : ty ≠ .EOF) : Inert (Prog.perform (.emitToken ch ty p)) :=
  perform (by simpa [Op.inertOk, Op.still, Op.emits] using h)

theorem emitTokenAtMark {ch ty p} (h : ty ≠ .EOF) : Inert (Prog.perform (.emitTokenAtMark ch ty p)) :=
  perform (by simpa [Op.inertOk, Op.still, Op.emits] using h)

theorem updateLastToken {ch ty p} (h : ty ≠ .EOF) : Inert (Prog.perform (.updateLastToken ch ty p)) :=
  perform (by simpa [Op.inertOk, Op.still, Op.emits] using h)

theorem retypeLastDefault {e n} (h : n ≠ .EOF) : Inert (Prog.perform (.retypeLastDefault e n)) :=
  perform (by simpa [Op.inertOk, Op.still, Op.emits] using h)

end Inert

attribute [irreducible] Inert

/-- `inert [callee lemmas]` proves `Inert p` by walking the program; what is left are the goals
`ty ≠ .EOF` of emitted token types that are not literals.
The rules are first tried `with_reducible`: a rule that does not fit must fail on the spot, not
after the program has been unfolded; what only fits after unfolding (the `P.*` helpers) comes last.  The first alternative
closes the arms of a `split` whose hypothesis is absurd. -/
syntax "inert" ("[" term,* "]")? : tactic
macro_rules
  | `(tactic| inert) => `(tactic| inert [])
  | `(tactic| inert [$ls,*]) => `(tactic| repeat' (first
      | (intro h; cases h; done)
      | intro _
      | with_reducible apply Inert.bind | with_reducible apply Inert.ite | with_reducible apply Inert.pure
      | (first $[| with_reducible apply $ls]*)
      | exact Inert.perform rfl
      | apply Inert.bind | apply Inert.ite
      | apply Inert.emitToken
      | apply Inert.emitTokenAtMark
      | apply Inert.updateLastToken
      | apply Inert.retypeLastDefault
      | split))

/-! ## `Safe`: the discipline from every text.  Like `Inert` it composes by rules: the continuation of
a safe program need only be safe, so it is looked at once however many branches the program has. -/

/-- the program respects the discipline from every text, whatever it returns and leaves -/
def Safe {α} (p : Prog α) : Prop := ∀ r, awp p (fun _ _ lag => lag = false) r false

/-- a postcondition that asks nothing of result and text: it is enough to end without a pending line feed -/
theorem awp.of_lag {α} {p : Prog α} {Q : α → List Char → Bool → Prop} {r : List Char} {lag : Bool}
    (hQ : ∀ a r', Q a r' false) (h : awp p (fun _ _ lag => lag = false) r lag) : awp p Q r lag :=
  awp.mono (fun a r' _ hl => hl ▸ hQ a r') h

theorem Safe.awp {α} {p : Prog α} (h : Safe p) {Q : α → List Char → Bool → Prop} {r : List Char}
    (hQ : ∀ a r', Q a r' false) : awp p Q r false :=
  awp.of_lag hQ (h r)

theorem Inert.safe {α} {p : Prog α} (h : Inert p) : Safe p := fun _ => h.awp' (fun _ => rfl)

namespace Safe
variable {α β : Type}

theorem pure (a : α) : Safe (Pure.pure a : Prog α) := (Inert.pure a).safe

theorem bind {p : Prog α} {f : α → Prog β} (hp : Safe p) (hf : ∀ a, Safe (f a)) : Safe (p >>= f) :=
  fun _ => awp.bind_iff.2 (hp.awp fun a r' => hf a r')

end Safe

/-- the instance is an ordinary implicit argument: where `simp` has rewritten the condition of an `if` but not its
`Decidable` instance, an instance argument would be synthesised anew and compared with the one in the goal by unfolding
the condition on both sides -/
theorem ite_intro {c : Prop} {_ : Decidable c} {P Q : Prop} (hp : c → P) (hq : ¬c → Q) : if c then P else Q := by
  split
  · exact hp ‹_›
  · exact hq ‹_›

end SasLexer
