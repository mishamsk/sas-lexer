import SasLexer.Proofs.Model.Chan
import SasLexer.Proofs.Kernel.Fields
import SasLexer.Proofs.Kernel.RunInd
/-!
# Soundness of the channel discipline

`ChInv`: every token of the buffer obeys the tables (`tokInfoOK`: channel, payload kind, `MacroSep` only with the
feature), every mode on the stack satisfies `modeOK`, and the payload register holds a string payload or none (`preg`).
Preserved by every primitive whose side condition `cOkCh` holds; the responses of the mode-stack reads then satisfy
`respOK`.  Hence (`ChanR_sound`): every program with `ChanR`, every run, both profiles.
-/
namespace SasLexer
open Lexer

/-- channel table and payload-kind table for one token -/
def tokInfoOK (sep : Bool) (t : TokInfo) : Bool :=
  chanOK t.chan t.ty && payKindOK t.ty t.payload && (t.ty != .MacroSep || sep)

/-- the payload register holds nothing or a string payload -/
def PReg (L : Lexer) : Prop := L.payReg = .none ∨ ∃ a b, L.payReg = .str a b

structure ChInv (sep : Bool) (L : Lexer) : Prop where
  toks : ∀ t ∈ L.toksR, tokInfoOK sep t = true
  modes : ∀ m ∈ L.modesR, modeOK m
  preg : PReg L

/-- a token built by an emitting primitive whose side condition holds: the payload register supplies a string payload
or none, and `paySpecOK` admits both -/
theorem tokInfoOK_emit {L : Lexer} (hr : PReg L) {sep : Bool} {ch : Channel} {ty : TokenType} {p : PaySpec}
    (h : tokOK sep ch ty p = true) (b s l : Nat) : tokInfoOK sep ⟨ch, ty, b, s, l, p.resolve L⟩ = true := by
  simp only [tokOK, tokInfoOK, Bool.and_eq_true] at h ⊢
  refine ⟨⟨h.1.1, ?_⟩, h.2⟩
  cases p with
  | reg =>
    have h2 := h.1.2
    simp only [paySpecOK, Bool.and_eq_true] at h2
    simp only [PaySpec.resolve]
    rcases hr with hr | ⟨a, b, hr⟩ <;> rw [hr]
    · exact h2.2
    · exact h2.1
  | _ => exact h.1.2

theorem ChInv.congr {sep : Bool} {L L' : Lexer} (h : ChInv sep L) (e1 : L'.toksR = L.toksR) (e2 : L'.modesR = L.modesR)
    (e3 : L'.payReg = L.payReg := by rfl) : ChInv sep L' :=
  ⟨by rw [e1]; exact h.toks, by rw [e2]; exact h.modes, by unfold PReg; rw [e3]; exact h.preg⟩

theorem ChInv.bufAddToken {sep : Bool} {cfg : Cfg} {L : Lexer} (h : ChInv sep L) (t : TokInfo) (ht : tokInfoOK sep t = true) :
    ChInv sep (L.bufAddToken cfg t) :=
  ⟨List.forall_mem_cons.2 ⟨ht, h.toks⟩, h.modes, h.preg⟩

theorem sameKinds_pay {e n : TokenType} (h : sameKinds e n = true) (p : Payload) : payKindOK n p = payKindOK e p := by
  simp only [sameKinds, Bool.and_eq_true, beq_iff_eq] at h
  obtain ⟨⟨h1, h2⟩, h3⟩ := h
  cases p <;> simp [payKindOK, h1, h2, h3]

theorem retype_ok {sep : Bool} {e n : TokenType} (hn : plainTy n = true) (hk : sameKinds e n = true) {ts ts' : List TokInfo}
    (h : retypeLastDefaultAux e n ts = some ts') (hall : ∀ t ∈ ts, tokInfoOK sep t = true) :
    ∀ t ∈ ts', tokInfoOK sep t = true := by
  obtain ⟨a, t, b, rfl, rfl, hc, hty⟩ := retype_eq h
  simp only [List.forall_mem_append, List.forall_mem_cons] at hall ⊢
  refine ⟨hall.1, ?_, hall.2.2⟩
  have h0 := hall.2.1
  simp only [tokInfoOK, Bool.and_eq_true] at h0 ⊢
  simp only [plainTy, tokOK, Bool.and_eq_true, Bool.or_false] at hn
  refine ⟨⟨by rw [hc]; exact hn.1.1, ?_⟩, by simp [hn.2]⟩
  rw [sameKinds_pay hk, ← hty]; exact h0.1.2

theorem insertSep_ok {ts ts' : List TokInfo} (h : insertSepAux ts = some ts') (hall : ∀ t ∈ ts, tokInfoOK true t = true) :
    ∀ t ∈ ts', tokInfoOK true t = true := by
  obtain ⟨a, t, b, rfl, rfl⟩ := insertSep_eq h
  simp only [List.forall_mem_append, List.forall_mem_cons] at hall ⊢
  exact ⟨hall.1, hall.2.1, rfl, hall.2.2⟩

theorem step_ChInv (cfg : Cfg) (o : Op) (L : Lexer) (h : ChInv cfg.macroSep L) (ho : cOkCh cfg.macroSep o) :
    ChInv cfg.macroSep (step cfg o L).2 ∧ respOK o (step cfg o L).1 := by
  have default : ∀ x ∈ Mode.default :: L.modesR, modeOK x := List.forall_mem_cons.2 ⟨trivial, h.modes⟩
  cases o
  case emitToken ch ty p => exact ⟨h.bufAddToken _ (tokInfoOK_emit h.preg ho _ _ _), trivial⟩
  case emitTokenAtMark ch ty p =>
    exact ⟨step_emitTokenAtMark h fun _ _ => h.bufAddToken _ (tokInfoOK_emit h.preg ho _ _ _), trivial⟩
  case updateLastToken ch ty p =>
    refine ⟨?_, trivial⟩
    simp only [step, Lexer.updateLastToken]
    cases hl : L.toksR with
    | cons t ts => exact ⟨List.forall_mem_cons.2 ⟨tokInfoOK_emit h.preg ho _ _ _, (List.forall_mem_cons.1 (hl ▸ h.toks)).2⟩, h.modes, h.preg⟩
    | nil =>
      exact ChInv.bufAddToken (L := L.emitError .InternalErrorNoTokenToReplace) (h.congr rfl rfl) ⟨ch, ty, _, _, _, _⟩ (tokInfoOK_emit h.preg ho _ _ _)
  case retypeLastDefault e n =>
    exact ⟨step_retype h fun _ hts => ⟨retype_ok ho.1 ho.2 hts h.toks, h.modes, h.preg⟩, trivial⟩
  case insertSepBeforeLastDefault =>
    refine ⟨?_, trivial⟩
    simp only [step]; split
    · rename_i hsep
      split
      · have h' := h.toks
        rw [hsep] at h' ⊢
        exact ⟨insertSep_ok ‹_› h', h.modes, h.preg⟩
      · exact h
    · exact h
  case pushMode m => exact ⟨⟨h.toks, List.forall_mem_cons.2 ⟨ho, h.modes⟩, h.preg⟩, trivial⟩
  case popMode =>
    refine ⟨?_, trivial⟩
    simp only [step, Lexer.popMode]
    cases hl : L.modesR with
    | nil => exact ⟨h.toks, default, h.preg⟩
    | cons m ms => exact ⟨h.toks, (List.forall_mem_cons.1 (hl ▸ h.modes)).2, h.preg⟩
  case mode =>
    simp only [step, Lexer.mode]
    cases hl : L.modesR with
    | nil => exact ⟨⟨h.toks, default, h.preg⟩, trivial⟩
    | cons m ms => exact ⟨h, (List.forall_mem_cons.1 (hl ▸ h.modes)).1⟩
  case popModeRaw =>
    simp only [step]
    cases hl : L.modesR with
    | nil => exact ⟨h, fun x hx => by cases hx⟩
    | cons m ms =>
      obtain ⟨h0, hms⟩ := List.forall_mem_cons.1 (hl ▸ h.modes)
      exact ⟨⟨h.toks, hms, h.preg⟩, fun x hx => by cases hx; exact h0⟩
  case modifyTop f =>
    refine ⟨?_, trivial⟩
    simp only [step]
    cases hl : L.modesR with
    | nil => exact h
    | cons m ms =>
      obtain ⟨h0, hms⟩ := List.forall_mem_cons.1 (hl ▸ h.modes)
      exact ⟨h.toks, List.forall_mem_cons.2 ⟨ho m h0, hms⟩, h.preg⟩
  case modifyAt i f =>
    refine ⟨?_, trivial⟩
    simp only [step]; split
    · rename_i ms hms
      refine ⟨h.toks, ?_, h.preg⟩
      obtain ⟨j, m, m', hm, hf, rfl⟩ := modifyNth_eq hms
      intro x hx
      rcases List.mem_or_eq_of_mem_set hx with hx | rfl
      · exact h.modes x hx
      · exact ho m x (h.modes m (List.mem_of_getElem? hm)) hf
    · exact h
  case insertModeAt i m =>
    refine ⟨?_, trivial⟩
    simp only [step]; split
    · rename_i ms hms
      refine ⟨h.toks, ?_, h.preg⟩
      obtain ⟨j, rfl⟩ := insertNth_eq hms
      intro x hx
      simp only [List.mem_append, List.mem_cons] at hx
      rcases hx with hx | rfl | hx
      · exact h.modes x (List.mem_of_mem_take hx)
      · exact ho
      · exact h.modes x (List.mem_of_mem_drop hx)
    · exact h.congr rfl rfl
  case rollback =>
    refine ⟨?_, trivial⟩
    simp only [step, Lexer.rollback]; split
    · exact ⟨fun t ht => h.toks t (mem_truncR ht), fun m hm => h.modes m (mem_truncR hm), h.preg⟩
    · exact h.congr rfl rfl
  case emitEofAtCursor =>
    exact ⟨ChInv.bufAddToken (h.congr (lastLineOrAdd_toksR cfg L) (lastLineOrAdd_modesR cfg L) (lastLineOrAdd_payReg cfg L)) _
      (show tokInfoOK _ ⟨.DEFAULT, .EOF, _, _, _, .none⟩ = true by rfl), trivial⟩
  case payClear => exact ⟨⟨h.toks, h.modes, Or.inl rfl⟩, trivial⟩
  case litAddDecoded cs => exact ⟨⟨h.toks, h.modes, Or.inr ⟨_, _, rfl⟩⟩, trivial⟩
  case litResolve back =>
    refine ⟨⟨(step_frame.toksR rfl : (step cfg (.litResolve back) L).2.toksR = _) ▸ h.toks,
      (step_frame.modesR rfl : (step cfg (.litResolve back) L).2.modesR = _) ▸ h.modes, ?_⟩, trivial⟩
    simp only [step]; split
    · exact Or.inl rfl
    · exact Or.inr ⟨_, _, rfl⟩
  all_goals exact ⟨h.congr (step_frame.toksR rfl) (step_frame.modesR rfl) (step_frame.payReg rfl), trivial⟩

theorem ChanR_sound (cfg : Cfg) {α : Type} (p : Prog α) : ∀ (Q : α → Prop) (L : Lexer), ChanR cfg.macroSep p Q → ChInv cfg.macroSep L →
    ChInv cfg.macroSep (Prog.run cfg p L).2 ∧ ∀ a, (Prog.run cfg p L).1 = some a → Q a := by
  intro Q L h hi
  refine (run_sound cfg (σ := Unit) (Inv := fun _ L => ChInv cfg.macroSep L) (W := fun p _ => ChanR cfg.macroSep p Q)
    (Q := fun a _ => Q a) (fun _ _ hi => hi) (fun _ _ h => ChanR.ret_iff.1 h) ?_ p () L h hi).imp id
    fun hq a ha => (hq a ha).elim fun _ hq => hq.1
  intro o k _ L h hi
  rw [ChanR.op_iff] at h
  obtain ⟨hs, hr⟩ := step_ChInv cfg o L hi h.1
  exact ⟨hs, fun _ => ⟨(), hs, h.2 _ hr⟩⟩

end SasLexer
