import SasLexer.Proofs.Model.ErrOrd
import SasLexer.Proofs.Model.FootprintFns
/-! # Every function of the modelled control logic satisfies the error-order discipline

A program that never performs `emitPrepared` is `EOK` (`EOK.of_uses`), which settles every function but
`dispatch_mode_str_expr` and its callers by its footprint (`FootprintFns.lean`).  That dispatcher holds the one `prepError` …
`emitPrepared` block (`prep_block`): what runs in between, `lex_macro_identifier`, emits no error (`EKeep`). -/
namespace SasLexer

theorem EOK.of_uses {α : Type} {p : Prog α} (h : p.Uses (· ≠ .emitPrepared) fun _ _ => True) : EOK p :=
  h.elim EOK.pure EOK.op EOK.bind

theorem Ordinary.ne_emitPrepared {sep : Bool} (o : Op) (h : Ordinary sep o) : o ≠ .emitPrepared := by
  rintro rfl; cases h.2

namespace EOK
theorem peekNext : EOK P.peekNext := by unfold P.peekNext; exact EOK.bind (EOK.op _ (by intro h; cases h)) (fun _ => EOK.pure _)
theorem advance : EOK P.advance := EOK.op _ (by intro h; cases h)
theorem advanceBy (n : Nat) : EOK (P.advanceBy n) := EOK.op _ (by intro h; cases h)
theorem eatWhile (p : Char → Bool) : EOK (P.eatWhile p) := EOK.op _ (by intro h; cases h)
theorem addLine : EOK P.addLine := EOK.op _ (by intro h; cases h)
theorem startToken : EOK P.startToken := EOK.op _ (by intro h; cases h)
theorem emitError (k) : EOK (P.emitError k) := EOK.op _ (by intro h; cases h)
theorem pushMode (m) : EOK (P.pushMode m) := EOK.op _ (by intro h; cases h)
theorem popMode : EOK P.popMode := EOK.op _ (by intro h; cases h)
theorem unmodelled (m) : EOK (P.unmodelled m) := EOK.op _ (by intro h; cases h)
end EOK

/-- walk the program by rule application; a callee by its lemma, or by its footprint.  The rules come first
`with_reducible`: one that does not fit has to fail at once, not after the program has been unfolded; the last two are
for the helpers that are `do` blocks (`advance_`, `peek`, …). -/
syntax "eok" "[" term,* "]" : tactic
macro_rules
  | `(tactic| eok [$ls,*]) => `(tactic| repeat' (first
      | intro _
      | with_reducible (first
        | apply EOK.pure
        | (first $[| apply $ls]*)
        | (apply EOK.of_uses; first $[| exact $ls]*)
        | apply EOK.bind
        | apply EOK.ite)
      | (apply EOK.op; (intro h; cases h))
      | split
      | apply EOK.bind
      | apply EOK.ite))

/-! ### a prepared error stays fresh across `lex_macro_identifier` -/

theorem lexMacroCallStatOrLabel_no_error (r : List Char) : ∀ e, lexMacroCallStatOrLabel r ≠ .error e := by
  have mk_all : ∀ p ∈ TokenType.MKEYWORDS, isMacroCallOrStatTokType p.2 = true := by decide +kernel
  intro e h
  rcases lexMacroCallStatOrLabel_eq r with e' | ⟨p, hp, e'⟩ <;> rw [e'] at h
  · cases h
  · rw [if_pos (mk_all p hp)] at h; cases h

namespace EKeep
theorem rest : EKeep P.rest := EKeep.op _ rfl
theorem peek : EKeep P.peek := by unfold P.peek; exact EKeep.bind rest (fun _ => EKeep.pure _)
theorem peekNext : EKeep P.peekNext := by unfold P.peekNext; exact EKeep.bind rest (fun _ => EKeep.pure _)
theorem peekIs (c) : EKeep (P.peekIs c) := by unfold P.peekIs; exact EKeep.bind peek (fun _ => EKeep.pure _)
theorem dbg (cfg : Cfg) {cond : Prog Bool} (hc : EKeep cond) (msg : String) : EKeep (P.dbg cfg cond msg) := by
  unfold P.dbg; split
  · exact EKeep.bind hc (fun _ => EKeep.op _ rfl)
  · exact EKeep.pure _
theorem lastTokTy : EKeep P.lastTokTy := by
  unfold P.lastTokTy
  exact EKeep.bind (EKeep.op _ rfl) (fun _ => EKeep.pure _)
end EKeep

/-- the same walk for `EKeep` (a primitive by `EKeep.op`, its side condition by evaluation) -/
syntax "ekeep" "[" term,* "]" : tactic
macro_rules
  | `(tactic| ekeep [$ls,*]) => `(tactic| repeat' (first
      | intro _
      | with_reducible (first
        | apply EKeep.pure
        | apply EKeep.bind
        | apply EKeep.ite
        | (first $[| apply $ls]*)
        | apply EKeep.peek | apply EKeep.peekNext | apply EKeep.peekIs | apply EKeep.dbg)
      | (apply EKeep.op; rfl)
      | split
      | dsimp only))

theorem macroCallOrStatPreload_keep : EKeep (macroCallOrStatPreload ty b) := by
  unfold macroCallOrStatPreload maybeExpectMacroCallArgsOrLabel expectMacroStrCallArgs
    expectEvalCallArgs expectScanOrSubstrCallArgs expectBuiltinMacroCallArgs expectBuiltinMacroCallOneArgMasking
    expectBuiltinMacroCallNamedArgs expectSysfuncMacroCallArgs expectMacroUntilWhileStatArgs expectMacroLetStat
    expectMacroNameThenOpts expectSyscallCallAndArgs
  ekeep []

theorem maybeEmitMacroSepBeforeKw_keep : EKeep (maybeEmitMacroSepBeforeKw ty) := by
  unfold maybeEmitMacroSepBeforeKw
  apply EKeep.bind (EKeep.op _ rfl)
  intro prev
  apply EKeep.ite
  · apply EKeep.bind
    · -- `if modeDepth == 0 then pure true else match mode with …`: `mode` only after the depth was seen non-zero
      unfold EKeep
      intro Q σ hQ
      show ewp (Prog.op .modeDepth _ >>= _) Q σ
      rw [ewp.bind_iff, ewp.depth_iff]
      intro d
      simp only [ewp]
      by_cases hd : d = 0
      · subst hd
        simp only [beq_self_eq_true, if_true]
        exact hQ _ _ id
      · have : (d == 0) = false := by simpa using hd
        simp only [this, Bool.false_eq_true, if_false]
        rw [ewp.bind_iff, P.mode, Prog.perform, ewp.op_iff (by intro m h; cases h) (by intro h; cases h)]
        refine ⟨trivial, fun m => ?_⟩
        have hne : (σ.ne || d != 0) = true := by simp [hd]
        simp only [eNext, hne, Bool.and_true, ewp]
        split <;> exact hQ _ _ id
    · intro nm
      apply EKeep.ite
      · exact EKeep.op _ rfl
      · exact EKeep.pure _
  · exact EKeep.pure _

theorem dispatchMacroCallOrStat_keep : EKeep (dispatchMacroCallOrStat cfg ty b) := by
  unfold dispatchMacroCallOrStat
  ekeep [maybeEmitMacroSepBeforeKw_keep, macroCallOrStatPreload_keep]

theorem lexMacroIdentifier_keep : EKeep (lexMacroIdentifier cfg b) := by
  unfold lexMacroIdentifier P.advance_ P.eatWhile
  ekeep [dispatchMacroCallOrStat_keep]
  all_goals (first | (exact absurd ‹_› (lexMacroCallStatOrLabel_no_error _ _)) | skip)


/-- the one place where an error is prepared: nothing between `prepError` and `emitPrepared` emits an error -/
theorem prep_block (k : ErrorKind) (p : Prog Unit) (hp : EKeep p) (c : Option TokenType → Bool) :
    EOK (Prog.perform (.prepError k) >>= fun _ => p >>= fun _ => P.lastTokTy >>= fun x =>
      if c x = true then (Prog.perform .emitPrepared >>= fun _ => (pure () : Prog Unit)) else pure ()) := by
  unfold EOK
  intro Q σ hQ
  rw [ewp.bind_iff, Prog.perform, ewp.op_iff (by intro m h; cases h) (by intro h; cases h)]
  refine ⟨trivial, fun _ => ?_⟩
  simp only [eNext, ewp]
  rw [ewp.bind_iff]
  refine hp.ewp fun _ σ1 h1 => ?_
  have hc1 : σ1.clean = true := h1 rfl
  rw [ewp.bind_iff]
  refine EKeep.lastTokTy.ewp fun x σ2 h2 => ?_
  have hc2 : σ2.clean = true := h2 hc1
  split
  · rw [ewp.bind_iff, Prog.perform, ewp.op_iff (by intro m h; cases h) (by intro h; cases h)]
    exact ⟨hc2, fun _ => hQ _ _⟩
  · exact hQ _ _

variable {cfg : Cfg} {c : Char} {b : Bool}

theorem dispatchModeStrExpr_eok : EOK (dispatchModeStrExpr cfg c b) := by
  have hE := Ordinary.ne_emitPrepared (sep := cfg.macroSep)
  unfold dispatchModeStrExpr lastTokIsStart
  eok [lexStrExprText_fp hE, lexDoubleQuotedLiteral_fp hE, lexMacroVarExpr_fp hE, lexMacroIdentifier_fp hE,
    prep_block _ _ lexMacroIdentifier_keep _]

theorem lexToken_eok : EOK (lexToken cfg c) := by
  have hE := Ordinary.ne_emitPrepared (sep := cfg.macroSep)
  unfold lexToken
  eok [lexCStyleComment_fp hE, lexWs_fp hE, dispatchModeDefault_fp hE Op.noConfusion,
    lexExpectedToken_fp hE Op.noConfusion, dispatchModeStrExpr_eok, dispatchMacroMode_fp hE Op.noConfusion Op.noConfusion]

theorem finalizeLexing_eok : EOK (finalizeLexing cfg) :=
  .of_uses (finalizeLexing_fp Ordinary.ne_emitPrepared (fun _ _ _ => Op.noConfusion) Op.noConfusion)

theorem mainLoop_eok : ∀ (f n : Nat) (last : Nat × List Mode), EOK (mainLoop cfg f n last) := by
  intro f
  induction f with
  | zero => intros; unfold mainLoop; eok []
  | succ f ih => intros; unfold mainLoop; eok [ih, lexToken_eok]

end SasLexer
