import SasLexer.Proofs.Model.FootprintFns
/-! # Every function of the modelled control logic obeys the channel table

Instances of the footprint lemmas of `FootprintFns.lean`: the admitted primitives are those that obey the tables
(`cOkCh`); a mode read from the stack satisfies `modeOK` (`respOK`), so an `ExpectSymbol` names an admissible token. -/
namespace SasLexer

theorem respOK_mode {sep : Bool} {ty : TokenType} {ch : Channel} (h : respOK .mode (.expectSymbol ty ch)) :
    cOkCh sep (.emitToken ch ty .none) :=
  tokOK_mono h

theorem respOK_popModeRaw {sep : Bool} {ty : TokenType} {ch : Channel}
    (h : respOK .popModeRaw (some (.expectSymbol ty ch))) : cOkCh sep (.emitToken ch ty .none) :=
  tokOK_mono (h _ rfl)

theorem lexToken_chan (cfg : Cfg) (c : Char) {Q : Unit → Prop} (hQ : ∀ a, Q a) : ChanR cfg.macroSep (lexToken cfg c) Q :=
  .of_uses (lexToken_fp (fun _ h => h.1) trivial rfl trivial fun _ _ => respOK_mode) hQ

theorem finalizeLexing_chan (cfg : Cfg) {Q : Unit → Prop} (hQ : ∀ a, Q a) : ChanR cfg.macroSep (finalizeLexing cfg) Q :=
  .of_uses (finalizeLexing_fp (fun _ h => h.1) (fun _ _ => respOK_popModeRaw) trivial) hQ

theorem mainLoop_chan (cfg : Cfg) : ∀ (f n : Nat) (last : Nat × List Mode) {Q : LoopEnd × Nat → Prop}, (∀ a, Q a) →
    ChanR cfg.macroSep (mainLoop cfg f n last) Q :=
  fun f n last _ hQ =>
    .of_uses (mainLoop_fp (fun _ h => h.1) trivial rfl trivial (fun _ _ => respOK_mode) f n last) hQ

end SasLexer
