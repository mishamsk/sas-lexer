import SasLexer.Proofs.Model.DiscMacroCall
import SasLexer.Lex.MacroEval
/-! # The scanning discipline holds of the macro expression / text expression modes (`Lex/MacroEval.lean`) -/
namespace SasLexer

theorem isMacroEvalMnemonic_ok {r : List Char} {ty : TokenType} {extra : Nat}
    (h : isMacroEvalMnemonic r = (some ty, extra)) (hs : ∀ c, r.head? = some c → isMnemonicStartChar c = true) :
    ty ≠ .EOF ∧ ∀ c ∈ r.take (1 + extra), c ≠ '\n' := by
  have key : ∀ row ∈ mnemonics, row.1 ≠ .EOF ∧ '\n' ∉ row.2 := by decide
  obtain ⟨h1, h2⟩ := key _ (isMacroEvalMnemonic_row h)
  exact ⟨h1, fun c hc hnl => h2 (List.mem_map.2 ⟨c, hc, by subst hnl; rfl⟩)⟩

theorem maybeEmitEmptyMacroStringInEval_inert (n : Option TokenType) : Inert (maybeEmitEmptyMacroStringInEval n) := by
  unfold maybeEmitEmptyMacroStringInEval; inert

theorem updateParensNesting_inert (cfg : Cfg) (b : Bool) : Inert (updateParensNesting cfg b) := by
  unfold updateParensNesting; inert [Inert.dbg]

theorem lexMacroStringInMacroEvalContextLoop_safe (flags : Nat) (tc : Bool) :
    ∀ (f : Nat) (a b : Bool), Safe (lexMacroStringInMacroEvalContextLoop flags tc f a b)
  | 0, a, b => (Safe.abort _).bind fun _ => .pure _
  | f + 1, a, b => fun r => by
    unfold lexMacroStringInMacroEvalContextLoop
    have ih := fun a b => lexMacroStringInMacroEvalContextLoop_safe flags tc f a b
    awp_auto [(ih _ _).awp]
    awp_done

theorem lexMacroStringUnrestrictedLoop_safe : ∀ (f : Nat), Safe (lexMacroStringUnrestrictedLoop f)
  | 0 => Safe.abort _
  | f + 1 => fun r => by
    unfold lexMacroStringUnrestrictedLoop
    have ih := lexMacroStringUnrestrictedLoop_safe f
    awp_auto [ih.awp]
    awp_done

theorem lexMacroStringStatOptsLoop_safe : ∀ (f : Nat), Safe (lexMacroStringStatOptsLoop f)
  | 0 => Safe.abort _
  | f + 1 => fun r => by
    unfold lexMacroStringStatOptsLoop
    have ih := lexMacroStringStatOptsLoop_safe f
    awp_auto [ih.awp]
    awp_done

theorem lexMacroStringUnrestricted_safe (cfg : Cfg) : Safe (lexMacroStringUnrestricted cfg) := by
  intro r; unfold lexMacroStringUnrestricted
  awp_auto [(lexMacroStringUnrestrictedLoop_safe _).awp]

theorem lexMacroStringStatOpts_safe (cfg : Cfg) : Safe (lexMacroStringStatOpts cfg) := by
  intro r; unfold lexMacroStringStatOpts
  awp_auto [(lexMacroStringStatOptsLoop_safe _).awp]

theorem lexMacroStringInMacroEvalContext_safe (cfg : Cfg) (flags : Nat) (tc : Bool) :
    Safe (lexMacroStringInMacroEvalContext cfg flags tc) := by
  intro r; unfold lexMacroStringInMacroEvalContext
  awp_auto [(lexMacroStringInMacroEvalContextLoop_safe _ _ _ _ _).awp]
  all_goals (first | exact absurd ‹_› (tryParseHexInteger_ty ‹_›) | exact absurd ‹_› (tryParseDecimal_ty ‹_›) | grind)

set_option maxRecDepth 8000 in
theorem dispatchMacroNameExpr_awp (cfg : Cfg) (c : Char) (fn : Bool) (e : Option ErrorKind) (t : List Char)
    {Q : Unit → List Char → Bool → Prop} (hQ : ∀ r', Q () r' false) :
    awp (dispatchMacroNameExpr cfg c fn e) Q (c :: t) false := by
  refine awp.of_lag (fun _ => hQ) ?_
  unfold dispatchMacroNameExpr
  awp_auto [lexCStyleComment_awp', lexMacroCall_awp', (lexMacroVarExpr_safe _).awp]
  awp_done

theorem dispatchMacroSemiTermTextExpr_awp (cfg : Cfg) (c : Char) (t : List Char)
    {Q : Unit → List Char → Bool → Prop} (hQ : ∀ r', Q () r' false) :
    awp (dispatchMacroSemiTermTextExpr cfg c) Q (c :: t) false := by
  refine awp.of_lag (fun _ => hQ) ?_
  unfold dispatchMacroSemiTermTextExpr
  awp_auto [lexCStyleComment_awp', lexMacroCall_awp', (lexMacroVarExpr_safe _).awp, lexSingleQuotedStr_awp',
    lexStringExpressionStart_awp', (lexMacroStringUnrestricted_safe _).awp]
  awp_done

theorem dispatchMacroStatOptsTextExpr_awp (cfg : Cfg) (c : Char) (t : List Char)
    {Q : Unit → List Char → Bool → Prop} (hQ : ∀ r', Q () r' false) :
    awp (dispatchMacroStatOptsTextExpr cfg c) Q (c :: t) false := by
  refine awp.of_lag (fun _ => hQ) ?_
  unfold dispatchMacroStatOptsTextExpr
  awp_auto [lexCStyleComment_awp', lexMacroCall_awp', (lexMacroVarExpr_safe _).awp, lexSingleQuotedStr_awp',
    lexStringExpressionStart_awp', (lexMacroStringStatOpts_safe _).awp, (lexWs_safe _).awp]
  awp_done

/-- an operator selected in front of `r` is no `EOF`, and the characters it covers are no line feeds.
An inductive predicate, so that the walk leaves it alone: one goal per arm of the selection. -/
inductive SelOk (r : List Char) : Option (TokenType × Nat) → Prop
  | no : SelOk r none
  | sel {ty : TokenType} {extra : Nat} (hty : ty ≠ .EOF) (hx : ∀ x ∈ r.take (1 + extra), x ≠ '\n') : SelOk r (some (ty, extra))

theorem SelOk.one {c : Char} {t : List Char} {ty : TokenType} (hty : ty ≠ .EOF) (hc : c ≠ '\n') :
    SelOk (c :: t) (some (ty, 0)) := .sel hty (by simpa using hc)

theorem SelOk.two {c d : Char} {t : List Char} {ty : TokenType} (hty : ty ≠ .EOF) (hc : c ≠ '\n')
    (hn : (nextOf (c :: t) == d) = true) (hd : d ≠ '\n') (hd0 : d ≠ Char.ofNat 0) : SelOk (c :: t) (some (ty, 1)) := by
  refine .sel hty ?_
  cases t with
  | nil => exact absurd (beq_iff_eq.1 hn).symm hd0
  | cons e u => obtain rfl : e = d := beq_iff_eq.1 hn; simp [hc, hd]

theorem evalOperatorSel_awp (cfg : Cfg) (c : Char) (t : List Char) {Q : Option (TokenType × Nat) → List Char → Bool → Prop}
    (hQ : ∀ sel, SelOk (c :: t) sel → Q sel (c :: t) false) :
    awp (evalOperatorSel cfg c (c :: t)) Q (c :: t) false := by
  refine awp.mono (Q := fun sel r' lag => lag = false ∧ r' = c :: t ∧ SelOk (c :: t) sel)
    (fun sel _ _ ⟨hl, hr, h⟩ => hl ▸ hr ▸ hQ sel h) ?_
  unfold evalOperatorSel
  awp_auto [(updateParensNesting_inert _ _).awp']
  all_goals first
    | exact .no
    | exact .one (by decide) (by grind)
    | exact .two (by decide) (by grind) ‹_› (by decide) (by decide)
    | exact .sel (isMacroEvalMnemonic_ok ‹_› (by simp_all)).1 (isMacroEvalMnemonic_ok ‹_› (by simp_all)).2

theorem lexMacroEvalOperator_awp (cfg : Cfg) (c : Char) {r : List Char} (hr : r.head? = some c)
    {Q : Bool → List Char → Bool → Prop} (hT : ∀ r', Q true r' false) (hF : Q false r false) :
    awp (lexMacroEvalOperator cfg c) Q r false := by
  obtain ⟨t, rfl⟩ := head_cons hr
  unfold lexMacroEvalOperator
  awp_auto [evalOperatorSel_awp, (maybeEmitEmptyMacroStringInEval_inert _).awp']
  all_goals first
    | exact hT _ | exact hF
    | (cases ‹SelOk _ _› with | sel hty hx => first | exact hty ‹_› | exact hx _ ‹_› ‹_›)

theorem dispatchModeMacroEval_awp (cfg : Cfg) (c : Char) (f p : Nat) (t : List Char)
    {Q : Unit → List Char → Bool → Prop} (hQ : ∀ r', Q () r' false) :
    awp (dispatchModeMacroEval cfg c f p) Q (c :: t) false := by
  refine awp.of_lag (fun _ => hQ) ?_
  unfold dispatchModeMacroEval
  awp_auto [lexSingleQuotedStr_awp', lexStringExpressionStart_awp', lexCStyleComment_awp', (lexMacroVarExpr_safe _).awp,
    lexMacroCall_awp', (maybeEmitEmptyMacroStringInEval_inert _).awp', lexMacroEvalOperator_awp,
    (lexMacroStringInMacroEvalContext_safe _ _ _).awp]
  all_goals (first | grind | (rcases t with _ | ⟨d, u⟩ <;> simp_all [isMacroEvalQuotableOp] <;> done))

end SasLexer
