import SasLexer.Proofs.Model.Sorted
import SasLexer.Proofs.Kernel.ErrAnchor
/-!
# The token an error names starts at or before the error (`KAnch`)

An error records the index of the newest token at the time it is reported.  `KAnch L`: the oldest `i + 1` tokens — in
particular the token with index `i` — start at or before the error's offset.  Appending tokens does not touch them;
retyping and the separator insertion keep their byte offsets (`retype_bytes`, `insertSep_truncR`); `rollback`
truncates errors and tokens consistently (`KErr`); and at the moment an error is reported every token starts at or
before the cursor — that is `SInv.le`, i.e. the discipline `swp`.
-/
namespace SasLexer
open Lexer

def AnchOk (toksR : List TokInfo) (e : ErrInfo) : Prop :=
  ∀ i, e.lastTok = some i → ∀ t ∈ truncR toksR (i + 1), t.byte ≤ e.byte

structure KAnch (L : Lexer) : Prop where
  errs : ∀ e ∈ L.errsR, AnchOk L.toksR e
  reg : ∀ e, L.errReg = some e → AnchOk L.toksR e

namespace KAnch
variable {L : Lexer} {cfg : Cfg}

/-- the token list changes but the oldest `n` keep their byte offsets for every `n` up to the old length -/
theorem withToks {ts : List TokInfo} {p : Option String} (h : KAnch L) (hk : KErr L)
    (htr : ∀ n, n ≤ L.toksR.length → ∀ x ∈ truncR ts n, ∃ y ∈ truncR L.toksR n, x.byte = y.byte) :
    KAnch { L with toksR := ts, panicked := p } := by
  have key : ∀ e, AnchOk L.toksR e → ErrOk L.toksR.length e → AnchOk ts e := by
    intro e ha hlt i hi t ht
    obtain ⟨y, hy, hb⟩ := htr (i + 1) (hlt i hi) t ht
    exact hb ▸ ha i hi y hy
  exact ⟨fun e he => key e (h.errs e he) (hk.errs e he), fun e he => key e (h.reg e he) (hk.reg e he)⟩

theorem frame {L' : Lexer} (h : KAnch L) (e1 : L'.toksR = L.toksR) (e2 : L'.errsR = L.errsR) (e3 : L'.errReg = L.errReg) :
    KAnch L' := by
  constructor
  · rw [e1, e2]; exact h.errs
  · rw [e1, e3]; exact h.reg

theorem bufAddToken (h : KAnch L) (hk : KErr L) (t : TokInfo) : KAnch (L.bufAddToken cfg t) := by
  refine h.withToks hk ?_
  intro n hn x hx
  rw [truncR_cons_of_le _ _ hn] at hx
  exact ⟨x, hx, rfl⟩

/-- a freshly prepared error: every token starts at or before the cursor -/
theorem prep_ok (hle : ∀ t ∈ L.toksR, t.byte ≤ L.curByte) (k : ErrorKind) : AnchOk L.toksR (L.prepError k) := by
  intro i hi t ht
  exact hle t (List.mem_of_mem_drop ht)

theorem emitErrorInfo (h : KAnch L) {e : ErrInfo} (he : AnchOk L.toksR e) : KAnch (L.emitErrorInfo e) :=
  ⟨List.forall_mem_cons.2 ⟨he, h.errs⟩, h.reg⟩

theorem emitError (h : KAnch L) (hle : ∀ t ∈ L.toksR, t.byte ≤ L.curByte) (k : ErrorKind) : KAnch (L.emitError k) :=
  h.emitErrorInfo (prep_ok hle k)

/-- `frame`, with the error list allowed to gain an error prepared now -/
theorem frameE {L' : Lexer} (h : KAnch L) (hle : ∀ t ∈ L.toksR, t.byte ≤ L.curByte) (e1 : L'.toksR = L.toksR)
    (e2 : ErrStep L L') (e3 : L'.errReg = L.errReg) : KAnch L' := by
  rcases e2 with e2 | ⟨k, e2⟩
  · exact h.frame e1 e2 e3
  · exact (h.emitError hle k).frame e1 e2 e3

/-- the token list changes but not its byte offsets -/
theorem withBytes {ts : List TokInfo} {p : Option String} (h : KAnch L) (hk : KErr L)
    (e : ts.map (·.byte) = L.toksR.map (·.byte)) : KAnch { L with toksR := ts, panicked := p } :=
  h.withToks hk fun n _ => mem_of_map_byte (truncR_map_congr _ e n)

end KAnch


theorem step_KAnch (cfg : Cfg) (o : Op) (L : Lexer) (σ : SS) (h : KAnch L) (hk : KErr L) (hs : SInv σ L) :
    KAnch (step cfg o L).2 := by
  cases o
  case emitToken ch ty p => exact h.bufAddToken hk _
  case emitTokenAtMark ch ty p => exact step_emitTokenAtMark h fun _ _ => h.bufAddToken hk _
  case updateLastToken ch ty p =>
    simp only [step, Lexer.updateLastToken]
    cases hl : L.toksR with
    | cons t ts => exact h.withBytes hk (by simp [hl])
    | nil => exact (h.emitError hs.le _).bufAddToken (hk.emitError _) _
  case retypeLastDefault e n => exact step_retype h fun _ hts => h.withBytes hk (retype_bytes hts)
  case insertSepBeforeLastDefault => exact step_insertSep h fun _ hts => h.withToks hk (insertSep_truncR hts)
  case prepError k => exact { h with reg := fun e he => by cases he; exact KAnch.prep_ok hs.le k }
  case emitPrepared =>
    simp only [step]; split
    · exact { errs := (h.emitErrorInfo (h.reg _ ‹_›)).errs, reg := nofun }
    · exact h
  case rollback =>
    simp only [step, Lexer.rollback]
    cases hc : L.cp with
    | none => exact h.emitError hs.le _
    | some c =>
      obtain ⟨h1, h2, h3⟩ := hk.cp c hc
      refine ⟨fun e he i hi t ht => ?_, nofun⟩
      have hlt := h3 e he i hi
      rw [truncR_truncR _ (by omega) h1] at ht
      exact h.errs e (List.mem_of_mem_drop he) i hi t ht
  case emitEofAtCursor =>
    exact KAnch.bufAddToken (h.frame (lastLineOrAdd_toksR cfg L) (lastLineOrAdd_errsR cfg L) (lastLineOrAdd_errReg cfg L))
      hk.lastLineOrAdd _
  all_goals exact h.frameE hs.le (step_frame.toksR rfl) (step_errStep rfl) (step_frame.errReg rfl)


theorem run_anch (cfg : Cfg) {α : Type} (p : Prog α) : ∀ (Q : α → SS → Prop) (σ : SS) (L : Lexer), swp p Q σ → SInv σ L →
    KErr L → KAnch L →
    KAnch (Prog.run cfg p L).2 ∧ ∀ a, (Prog.run cfg p L).1 = some a → ∃ σ', Q a σ' ∧ SInv σ' (Prog.run cfg p L).2 := by
  intro Q σ L h hi hk ha
  refine (run_sound cfg (Inv := fun σ L => SInv σ L ∧ KErr L ∧ KAnch L) (J := KAnch) (W := fun p σ => swp p Q σ)
    (fun _ _ hi => hi.2.2) (fun _ _ h => h) ?_ p σ L h ⟨hi, hk, ha⟩).imp id
    fun hq a ha => (hq a ha).imp fun σ' hq => ⟨hq.1, hq.2.1⟩
  intro o k σ L h ⟨hi, hk, ha⟩
  have ha' := step_KAnch cfg o L σ ha hk hi
  refine ⟨ha', fun hp => ?_⟩
  have ho : ∀ m, o ≠ .panic m := fun m hm => panic_panicked cfg m L (hm ▸ hp)
  rw [swp.op_iff ho] at h
  exact ⟨_, ⟨step_SInv cfg o L σ hi h.1, step_KErr cfg o L hk, ha'⟩, h.2 _⟩

theorem new_KAnch (cfg : Cfg) (s : List Char) : KAnch (Lexer.new cfg s) :=
  { errs := by simp, reg := by simp }

end SasLexer
