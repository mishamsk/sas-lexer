import SasLexer.Proofs.Model.Chan
import SasLexer.Lex.Main
import SasLexer.Proofs.Pure.Keywords
import SasLexer.Proofs.Model.DiscLemmas
/-! # What the pure helpers of the control logic can return, in terms of the channel and payload tables -/
namespace SasLexer

theorem tryParseInteger_plain {s : List Char} {r : NumRes} (h : tryParseInteger s = some r) : tokOK false .DEFAULT r.ty r.payload = true := by
  unfold tryParseInteger at h
  simp only at h
  split at h
  · simp at h
  · split at h
    · simp at h
    · simp only [Option.some.injEq] at h; subst h; rfl

theorem tryParseHexInteger_plain {s : List Char} {r : NumRes} (h : tryParseHexInteger s = some r) : tokOK false .DEFAULT r.ty r.payload = true := by
  unfold tryParseHexInteger at h
  simp only at h
  split at h
  · simp at h
  · split at h <;> (simp only [Option.some.injEq] at h; subst h; rfl)

theorem tryParseFloat_plain {s : List Char} {r : NumRes} (h : tryParseFloat s = some r) : tokOK false .DEFAULT r.ty r.payload = true := by
  unfold tryParseFloat at h
  split at h
  · split at h
    · simp at h
    · simp only [Option.some.injEq] at h; subst h; split <;> rfl
  · split at h
    · simp at h
    · simp only [Option.some.injEq] at h; subst h; rfl
  · simp at h

theorem tryParseDecimal_plain {s : List Char} {a b : Bool} {r : NumRes} (h : tryParseDecimal s a b = some r) :
    tokOK false .DEFAULT r.ty r.payload = true :=
  (tryParseDecimal_cases h).elim tryParseInteger_plain tryParseFloat_plain

theorem numericChoice_plain {view : List Char} {sd : Bool} {res : NumRes} {cx : Bool}
    (h : numericChoice view sd = some (res, cx)) : tokOK false .DEFAULT res.ty res.payload = true := by
  rcases numericChoice_cases h with h | h | rfl
  · exact tryParseDecimal_plain h
  · exact tryParseHexInteger_plain h
  · rfl

def litTy (ty : TokenType) : Prop :=
  ty = .BitTestingLiteral ∨ ty = .DateTimeLiteral ∨ ty = .DateLiteral ∨ ty = .NameLiteral ∨ ty = .TimeLiteral ∨
  ty = .HexStringLiteral ∨ ty = .StringLiteral

theorem litTy.plain {ty : TokenType} (h : litTy ty) : tokOK false .DEFAULT ty .reg = true := by
  rcases h with h | h | h | h | h | h | h <;> subst h <;> rfl

/-- the channel `dispatch_macro_call_or_stat` gives the keyword token -/
def kwChan (t : TokenType) : Channel := if tokOneOf t [.KwmStr, .KwmNrStr] then .HIDDEN else .DEFAULT

theorem mkeywords_chan : ∀ p ∈ TokenType.MKEYWORDS, tokOK false (kwChan p.2) p.2 .none = true := by decide +kernel
theorem keywords_plain : ∀ p ∈ TokenType.KEYWORDS, plainTy p.2 = true := by decide +kernel

theorem lexMacroCallStatOrLabel_chan {r : List Char} {t : TokenType} {n : Nat}
    (h : lexMacroCallStatOrLabel r = .ok (t, n)) : tokOK false (kwChan t) t .none = true := by
  rcases lexMacroCallStatOrLabel_eq r with e | ⟨p, hp, e⟩ <;> rw [e] at h
  · cases h; rfl
  · split at h
    · cases h; exact mkeywords_chan p hp
    · cases h

theorem strExprEndType_plain (c : Option Char) (n : Char) : plainTy (strExprEndType c n).1 = true := by
  unfold strExprEndType
  split
  · repeat' split
    all_goals rfl
  · rfl

theorem isMacroEvalMnemonic_plain {r : List Char} {ty : TokenType} {extra : Nat}
    (h : isMacroEvalMnemonic r = (some ty, extra)) : plainTy ty = true :=
  (show ∀ row ∈ mnemonics, plainTy row.1 = true by decide) _ (isMacroEvalMnemonic_row h)

theorem modeOK_of_ne {m : Mode} (h : ∀ ty ch, m ≠ .expectSymbol ty ch) : modeOK m := by
  cases m <;> first | trivial | exact absurd rfl (h _ _)

theorem nextArgModeOf_ok (flags : Nat) : modeOK (nextArgModeOf flags) := by
  unfold nextArgModeOf; split <;> trivial


end SasLexer
