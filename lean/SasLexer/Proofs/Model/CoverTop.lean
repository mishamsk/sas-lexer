import SasLexer.Proofs.Model.CoverKernel
import SasLexer.Proofs.Model.CoverOpen
import SasLexer.Proofs.LexProgram
/-!
# The first token of the modelled lexer starts at the end of the BOM (C02, model level, every input)

After the first iteration of the main loop (`dispatchModeDefault_cov`, `cwp_sound` from the initial state `σ0`) a token
exists that starts at the BOM end, and `run_KOld` carries it through the rest of the loop and finalisation
(`finalState_first`); on an empty text finalisation itself supplies it (`finalize_first`).  `model_first_at_bom` reads it
off the detached buffer.
-/
namespace SasLexer

/-- the initial abstract state: no token yet, pending start and cursor at the BOM end, no mark, no checkpoint, text as
entered -/
def σ0 : CS := ⟨false, true, true, none, none, true⟩

theorem new_CInv (cfg : Cfg) (s : List Char) : CInv σ0 (Lexer.new cfg s) := by
  exact { ne_iff := by simp [σ0], first := by simp, tokAt := by simp, atS := by simp, markNone := by simp [σ0],
          markAt := by simp [σ0], cp := by simp [σ0, CpRel] }

/-- the state right before `into_detached` -/
def finalState (cfg : Cfg) (s : List Char) : Lexer :=
  (Prog.run cfg (finalizeLexing cfg)
    (Prog.run cfg (mainLoop cfg (budgetMul * (Lexer.new cfg s).srcLen + 64) 0 ((Lexer.new cfg s).srcLen, [Mode.default]))
      (Lexer.new cfg s)).2).2

theorem lexProgram_buf (cfg : Cfg) (s : List Char) (h : (lexProgram cfg s).ending = some .eof) :
    (lexProgram cfg s).buf = ((finalState cfg s).intoDetached cfg).1 ∧
    (Prog.run cfg (mainLoop cfg (budgetMul * (Lexer.new cfg s).srcLen + 64) 0 ((Lexer.new cfg s).srcLen, [Mode.default]))
      (Lexer.new cfg s)).1.isSome = true ∧ (finalState cfg s).panicked = none := by
  obtain ⟨⟨n, hm⟩, hl, hp2, hbuf, -⟩ := lexProgram_eof h
  rw [hl] at hp2 hbuf
  exact ⟨hbuf, (show (mainRun cfg s).1.isSome = true by rw [hm]; rfl), hp2⟩

theorem run_peek_bind (cfg : Cfg) {α : Type} (K : Option Char → Prog α) (L : Lexer) (hp : L.panicked = none) :
    Prog.run cfg (P.peek >>= K) L = Prog.run cfg (K L.cur.rest.head?) L := by
  show Prog.run cfg (Prog.op .rest fun r => K r.head?) L = _
  rw [run_op]
  simp only [step, hp]

theorem run_mode_bind (cfg : Cfg) {α : Type} (K : Mode → Prog α) (L : Lexer) (hp : L.panicked = none) (m : Mode) (ms : List Mode)
    (hm : L.modesR = m :: ms) : Prog.run cfg (P.mode >>= K) L = Prog.run cfg (K m) L := by
  show Prog.run cfg (Prog.op .mode fun r => K r) L = _
  rw [run_op]
  simp only [step, Lexer.mode, hm, hp]

theorem mainLoop_at_eof (cfg : Cfg) (f n : Nat) (last : Nat × List Mode) (L : Lexer) (hp : L.panicked = none)
    (hr : L.cur.rest = []) : Prog.run cfg (mainLoop cfg f n last) L = (some (.eof, n), L) := by
  cases f <;>
  · unfold mainLoop
    rw [run_peek_bind cfg _ L hp, hr]; rfl

theorem cpGood_σ0 : cpGood σ0 := by intro n t a h; simp [σ0] at h

/-- finalisation from a boundary state: afterwards the oldest token starts at the BOM end -/
theorem finalize_first (cfg : Cfg) (L : Lexer) (σ : CS) (hc : CInv σ L) (hk : KPos L) (hs : L.src.length < 4294967296)
    (hB : Bnd σ) (hp : L.panicked = none) (hp2 : (Prog.run cfg (finalizeLexing cfg) L).2.panicked = none) :
    ∃ t, (Prog.run cfg (finalizeLexing cfg) L).2.toksR.getLast? = some t ∧ t.start = bomChars L.src := by
  obtain ⟨L2, hR, hL2p, hsrc2, e⟩ := finalizeLexing_ok hp hp2
  have hw : cwp (fun _ => True) (finalizeLoop cfg (L.modesR.length * 2 + 2)) (fun _ σ' => Bnd σ') σ :=
    finalizeLoop_bnd cfg _ _ hB (fun σ' h => h)
  obtain ⟨a', σ', _, hc2, hk2, hB2⟩ := cwp_sound cfg _ _ _ L σ hc hk hs (fun _ => trivial) hp hw (by rw [hR]; exact hL2p)
  rw [hR] at hc2 hk2
  dsimp only at hc2 hk2
  rw [e]
  simp only [step, Lexer.bufAddToken, lastLineOrAdd_toksR]
  cases hl : L2.toksR with
  | nil =>
    have hat : σ'.atS = true := hB2.resolve_left fun hn => hc2.ne_iff.1 hn hl
    refine ⟨_, rfl, ?_⟩
    have := hc2.atS hat
    simp only [Lexer.curChar, lastLineOrAdd_cur, List.getLast_singleton, this, hsrc2]
  | cons a b =>
    obtain ⟨t0, h0, h1⟩ := hc2.first (by simp [hl])
    rw [hl] at h0
    refine ⟨t0, ?_, by rw [h1, hsrc2]⟩
    rw [List.getLast?_cons_cons]; exact h0

theorem finalState_first (cfg : Cfg) (s : List Char) (hlen : s.length < 4294967296)
    (hsome : (Prog.run cfg (mainLoop cfg (budgetMul * (Lexer.new cfg s).srcLen + 64) 0 ((Lexer.new cfg s).srcLen, [Mode.default]))
      (Lexer.new cfg s)).1.isSome = true)
    (hfin : (finalState cfg s).panicked = none) :
    ∃ t, (finalState cfg s).toksR.getLast? = some t ∧ t.start = bomChars s := by
  have hp0 := new_panicked cfg s
  have hk0 := new_KPos cfg s
  have hc0 := new_CInv cfg s
  have hm0 := new_modesR cfg s
  have hsrc0 : (Lexer.new cfg s).src.length < 4294967296 := by rw [new_src]; exact hlen
  unfold finalState at hfin ⊢
  -- the fuel in successor form, so that `mainLoop` unfolds
  have hB : budgetMul * (Lexer.new cfg s).srcLen + 64 = (budgetMul * (Lexer.new cfg s).srcLen + 63) + 1 := by omega
  rw [hB] at hsome hfin ⊢
  generalize hL0 : Lexer.new cfg s = L0 at *
  cases hrest : L0.cur.rest with
  | nil =>
    -- nothing after the BOM: the only token is the final `EOF`
    rw [mainLoop_at_eof cfg _ _ _ L0 hp0 hrest] at hfin ⊢
    simp only at hfin ⊢
    have hB0 : Bnd σ0 := Or.inr rfl
    have := finalize_first cfg L0 σ0 hc0 hk0 hsrc0 hB0 hp0 hfin
    rw [← hL0, new_src] at this
    rw [← hL0]; exact this
  | cons c t =>
    -- the first iteration runs the open-code dispatcher on the initial state; it returns, since the loop does
    have hsrcL0 : L0.src = s := by rw [← hL0, new_src]
    have hlt : Prog.run cfg (lexToken cfg c) L0 = Prog.run cfg (dispatchModeDefault cfg c) L0 := by
      unfold lexToken
      rw [run_mode_bind cfg _ L0 hp0 .default [] hm0]
    rw [mainLoop, run_peek_bind cfg _ L0 hp0, hrest] at hsome hfin ⊢
    obtain ⟨a, ha⟩ := Option.isSome_iff_exists.1 hsome
    obtain ⟨⟨⟩, hD, e⟩ := run_bind_some ha
    rw [List.head?_cons, e, hlt] at hfin ⊢
    rw [hlt] at hD
    have hL1p := run_some_panicked cfg (dispatchModeDefault cfg c) L0 () hp0 hD
    have hw := dispatchModeDefault_cov cfg c (σ := σ0) (Q := fun _ σ' => σ'.ne = true ∧ cpGood σ') rfl (Or.inr rfl)
      cpGood_σ0 (fun _ σ' h1 h2 => ⟨h1, h2⟩)
    obtain ⟨a', σ', _, hc1, hk1, hne1, hg1⟩ := cwp_sound cfg _ _ _ L0 σ0 hc0 hk0 hsrc0
      (fun _ => by simp [hrest]) hp0 hw hL1p
    obtain ⟨t0, h0, h1⟩ := (run_KOld cfg (finalizeLexing cfg) _ (run_KOld cfg _ _ (KOld.of_CInv hc1 hne1 hg1))).first
    exact ⟨t0, h0, by rw [h1, run_src, run_src, run_src, hsrcL0]⟩

theorem intoDetached_head (cfg : Cfg) (L : Lexer) (hne : L.toksR ≠ []) :
    (L.intoDetached cfg).1.toks.head? = L.toksR.getLast? := by
  obtain ⟨k, h⟩ := intoDetached_toks cfg L
  rw [h]
  split
  · exact List.head?_reverse
  · obtain ⟨t, ht⟩ := Option.isSome_iff_exists.1 (List.getLast?_isSome.2 hne)
    simp [List.head?_append, ht]

/-- **the first token starts at the end of the BOM** (C02, model level, every input, both profiles) -/
theorem model_first_at_bom (cfg : Cfg) (s : List Char) (hlen : s.length < 4294967296)
    (h : (lexProgram cfg s).ending = some .eof) :
    ∃ t, (lexProgram cfg s).buf.toks.head? = some t ∧ t.start = bomChars s := by
  obtain ⟨hbuf, hsome, hfin⟩ := lexProgram_buf cfg s h
  obtain ⟨t, ht, hst⟩ := finalState_first cfg s hlen hsome hfin
  refine ⟨t, ?_, hst⟩
  rw [hbuf]
  have hne : (finalState cfg s).toksR ≠ [] := by intro e; rw [e] at ht; simp at ht
  rw [intoDetached_head cfg _ hne]; exact ht

end SasLexer
