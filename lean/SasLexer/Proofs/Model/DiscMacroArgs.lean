import SasLexer.Proofs.Model.DiscMacroEval
import SasLexer.Lex.MacroArgs
/-! # The scanning discipline holds of macro call / definition arguments and `%str` (`Lex/MacroArgs.lean`) -/
namespace SasLexer

theorem populateNextArgStack_awp (flags : Nat) {r : List Char} (hr : r.head? = some ',')
    {Q : Unit → List Char → Bool → Prop} (hQ : ∀ r', Q () r' false) :
    awp (populateNextArgStack flags) Q r false := by
  refine awp.of_lag (fun _ => hQ) ?_
  unfold populateNextArgStack
  awp_auto []
  awp_done

theorem lexMaybeMacroCallArgsOrLabel_awp (cfg : Cfg) (c : Char) (b : Bool) (t : List Char)
    {Q : Unit → List Char → Bool → Prop} (hQ : ∀ r', Q () r' false) :
    awp (lexMaybeMacroCallArgsOrLabel cfg c b) Q (c :: t) false := by
  refine awp.of_lag (fun _ => hQ) ?_
  unfold lexMaybeMacroCallArgsOrLabel
  awp_auto []
  awp_done

theorem lexMaybeMacroCallArgAssign_awp (cfg : Cfg) (c : Char) (f : Nat) (t : List Char)
    {Q : Unit → List Char → Bool → Prop} (hQ : ∀ r', Q () r' false) :
    awp (lexMaybeMacroCallArgAssign cfg c f) Q (c :: t) false := by
  refine awp.of_lag (fun _ => hQ) ?_
  unfold lexMaybeMacroCallArgAssign
  awp_auto []
  awp_done

theorem lexMaybeTailMacroCallArgValue_awp (cfg : Cfg) (c : Char) (t : List Char)
    {Q : Unit → List Char → Bool → Prop} (hQ : ∀ r', Q () r' false) :
    awp (lexMaybeTailMacroCallArgValue cfg c) Q (c :: t) false := by
  refine awp.of_lag (fun _ => hQ) ?_
  unfold lexMaybeTailMacroCallArgValue
  awp_auto []
  awp_done

theorem safePopMode_inert : Inert safePopMode := by unfold safePopMode; inert
theorem switchToValueMode_safe (f : Nat) : Safe (switchToValueMode f) := by
  intro r; unfold switchToValueMode; awp_auto []
theorem pushCheckAssign_inert (f : Nat) : Inert (pushCheckAssign f) := by unfold pushCheckAssign; inert

set_option maxRecDepth 8000 in
theorem dispatchMacroCallArgOrValue_awp (cfg : Cfg) (c : Char) (f : Nat) (t : List Char)
    {Q : Unit → List Char → Bool → Prop} (hQ : ∀ r', Q () r' false) :
    awp (dispatchMacroCallArgOrValue cfg c f) Q (c :: t) false := by
  refine awp.of_lag (fun _ => hQ) ?_
  unfold dispatchMacroCallArgOrValue
  awp_auto [(pushCheckAssign_inert _).awp', (switchToValueMode_safe _).awp, (lexMacroVarExpr_safe _).awp,
    lexMacroComment_awp', lexMacroIdentifier_awp', safePopMode_inert.awp', populateNextArgStack_awp]
  awp_done

theorem emitTokenUpdateNestingArg_inert (pnl : Nat) (loc : Int) : Inert (emitTokenUpdateNestingArg pnl loc) := by
  unfold emitTokenUpdateNestingArg; inert

theorem emitTokenUpdateNestingStr_inert (pnl : Nat) (loc : Int) : Inert (emitTokenUpdateNestingStr pnl loc) := by
  unfold emitTokenUpdateNestingStr; inert

theorem lexMacroStringInMacroCallArgValueLoop_safe (flags pnl : Nat) :
    ∀ (f : Nat) (loc : Int), Safe (lexMacroStringInMacroCallArgValueLoop flags pnl f loc)
  | 0, loc => Safe.abort _
  | f + 1, loc => fun r => by
    unfold lexMacroStringInMacroCallArgValueLoop
    have ih := fun loc => lexMacroStringInMacroCallArgValueLoop_safe flags pnl f loc
    awp_auto [(ih _).awp, (emitTokenUpdateNestingArg_inert _ _).awp', populateNextArgStack_awp]
    awp_done

theorem lexMacroStringInMacroCallArgValue_safe (cfg : Cfg) (flags pnl : Nat) :
    Safe (lexMacroStringInMacroCallArgValue cfg flags pnl) := by
  intro r; unfold lexMacroStringInMacroCallArgValue
  awp_auto [(lexMacroStringInMacroCallArgValueLoop_safe _ _ _ _).awp]

set_option maxRecDepth 8000 in
theorem dispatchMacroCallArgValue_awp (cfg : Cfg) (c : Char) (f p : Nat) (t : List Char)
    {Q : Unit → List Char → Bool → Prop} (hQ : ∀ r', Q () r' false) :
    awp (dispatchMacroCallArgValue cfg c f p) Q (c :: t) false := by
  refine awp.of_lag (fun _ => hQ) ?_
  unfold dispatchMacroCallArgValue
  awp_auto [(lexMacroVarExpr_safe _).awp, lexCStyleComment_awp', lexSingleQuotedStr_awp', lexStringExpressionStart_awp',
    lexMacroComment_awp', lexMacroIdentifier_awp', populateNextArgStack_awp,
    (lexMacroStringInMacroCallArgValue_safe _ _ _).awp]
  awp_done

theorem lexMaybeMacroDefArgs_awp (cfg : Cfg) (c : Char) (t : List Char)
    {Q : Unit → List Char → Bool → Prop} (hQ : ∀ r', Q () r' false) :
    awp (lexMaybeMacroDefArgs cfg c) Q (c :: t) false := by
  refine awp.of_lag (fun _ => hQ) ?_
  unfold lexMaybeMacroDefArgs
  awp_auto []
  awp_done

theorem lexMacroDefIdentifier_safe (cfg : Cfg) (c : Char) (b : Bool) : Safe (lexMacroDefIdentifier cfg c b) := by
  intro r; unfold lexMacroDefIdentifier
  awp_auto []
  awp_done

theorem dispatchMacroDefArg_safe (cfg : Cfg) (c : Char) : Safe (dispatchMacroDefArg cfg c) := by
  intro r; unfold dispatchMacroDefArg
  awp_auto [(lexMacroDefIdentifier_safe _ _ _).awp]

theorem lexMacroDefNextArgOrDefaultValue_awp (cfg : Cfg) (c : Char) (t : List Char)
    {Q : Unit → List Char → Bool → Prop} (hQ : ∀ r', Q () r' false) :
    awp (lexMacroDefNextArgOrDefaultValue cfg c) Q (c :: t) false := by
  refine awp.of_lag (fun _ => hQ) ?_
  unfold lexMacroDefNextArgOrDefaultValue
  awp_auto []
  awp_done

theorem lexMacroStringInStrCallLoop_safe (mm : Bool) (pnl : Nat) :
    ∀ (f : Nat) (loc : Int), Safe (lexMacroStringInStrCallLoop mm pnl f loc)
  | 0, loc => Safe.abort _
  | f + 1, loc => fun r => by
    unfold lexMacroStringInStrCallLoop
    have ih := fun loc => lexMacroStringInStrCallLoop_safe mm pnl f loc
    awp_auto [(ih _).awp, (emitTokenUpdateNestingStr_inert _ _).awp']
    all_goals grind [isStrQuotedChar, secondCharOr0, List.drop_one]

theorem lexMacroStringInStrCall_safe (cfg : Cfg) (mm : Bool) (pnl : Nat) : Safe (lexMacroStringInStrCall cfg mm pnl) := by
  intro r; unfold lexMacroStringInStrCall
  awp_auto [(lexMacroStringInStrCallLoop_safe _ _ _ _).awp]

set_option maxRecDepth 8000 in
theorem dispatchMacroStrQuotedExpr_awp (cfg : Cfg) (c : Char) (mm : Bool) (p : Nat) (t : List Char)
    {Q : Unit → List Char → Bool → Prop} (hQ : ∀ r', Q () r' false) :
    awp (dispatchMacroStrQuotedExpr cfg c mm p) Q (c :: t) false := by
  refine awp.of_lag (fun _ => hQ) ?_
  unfold dispatchMacroStrQuotedExpr
  awp_auto [(lexMacroVarExpr_safe _).awp, lexCStyleComment_awp', lexSingleQuotedStr_awp', lexStringExpressionStart_awp',
    lexMacroIdentifier_awp', (lexMacroStringInStrCall_safe _ _ _).awp]
  awp_done

end SasLexer
