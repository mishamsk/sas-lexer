import SasLexer.Proofs.Model.Fin
import SasLexer.Spec.C10
import SasLexer.Proofs.LexProgram
/-!
# Finalisation supplies exactly the owed closers (model, every state)

`finalize_lexing` evaluated in `fwp`: for one mode (`finalizeMode_fwp`, against `fin1`) and for every mode stack
(`finalizeLoop_fwp`, by induction on it).  `Rep st σ` relates the specification's own computation of what is owed
(`Spec.C10.finStep`) to the projection, one mode at a time (`Rep.step`); `finalizeLexing_closers` puts the two together.
-/
namespace SasLexer
open Spec.C10

theorem expectedCharAndError_missingErr (ty : TokenType) :
    (expectedCharAndError ty).map (·.2) = missingErr ty := by
  unfold expectedCharAndError missingErr
  split <;> simp

/-- exact effect of `finalizeMode` on the projection (where specified) -/
def fin1 (σ : FS) : Mode → FS
  | .expectSymbol ty ch =>
    match missingErr ty with
    | some ek => { σ with tokByte := σ.cur, errs := ek :: σ.errs, toks := (ty, ch, σ.cur) :: σ.toks }
    | none => σ
  | .expectSemiOrEOF | .macroDo => { σ with tokByte := σ.cur, toks := (.SEMI, .DEFAULT, σ.cur) :: σ.toks }
  | .macroStrQuotedExpr _ pnl | .macroCallValue _ pnl | .macroEval _ pnl =>
    if pnl > 0 then
      { σ with tokByte := σ.cur, errs := .MissingExpectedRParen :: σ.errs,
               toks := List.replicate pnl (.RPAREN, .DEFAULT, σ.cur) ++ σ.toks }
    else { σ with tokByte := σ.cur }
  | .stringExpr _ =>
    match σ.toks with
    | (.StringExprStart, _, b) :: ts =>
      { σ with tokByte := σ.cur, toks := (.StringLiteral, .DEFAULT, b) :: ts, errs := .UnterminatedStringLiteral :: σ.errs }
    | _ => { σ with tokByte := σ.cur, toks := (.StringExprEnd, .DEFAULT, σ.cur) :: σ.toks,
                    errs := .UnterminatedStringLiteral :: σ.errs }
  | .macroNameExpr _ (some e) => { σ with tokByte := σ.cur, errs := e :: σ.errs }
  | .macroDefName => { σ with tokByte := σ.cur, errs := .InvalidMacroDefName :: σ.errs }
  | _ => { σ with tokByte := σ.cur }

theorem fin1_stringExpr {σ : FS} (a) (h : ∀ ch b ts, σ.toks ≠ (.StringExprStart, ch, b) :: ts) :
    fin1 σ (.stringExpr a) = { σ with tokByte := σ.cur, toks := (.StringExprEnd, .DEFAULT, σ.cur) :: σ.toks,
                                      errs := .UnterminatedStringLiteral :: σ.errs } := by
  simp only [fin1]

theorem fwp_forIn_emit (l : List Nat) : ∀ (σ : FS) (Q : PUnit → FS → Prop),
    fwp (forIn l PUnit.unit fun (_ : Nat) (_ : PUnit) => do
      P.emitD .RPAREN
      pure (ForInStep.yield PUnit.unit)) Q σ ↔
    Q PUnit.unit { σ with toks := List.replicate l.length (.RPAREN, .DEFAULT, σ.tokByte) ++ σ.toks } := by
  induction l with
  | nil => intro σ Q; simp only [List.forIn_nil, fwp.pure_iff, List.length_nil, List.replicate_zero, List.nil_append]
  | cons x l ih =>
    intro σ Q
    simp only [P.emitD, Prog.perform] at ih
    simp only [List.forIn_cons, P.emitD]
    fwp_eval
    rw [ih]
    simp only [List.length_cons, List.replicate_succ']
    simp [List.append_assoc]

/-- a debug assertion whose condition only reads the text leaves the projection alone -/
theorem fwp_dbg_peek {cfg : Cfg} {msg : String} {f : Option Char → Bool} {Q : Unit → FS → Prop} {σ : FS} :
    fwp (P.dbg cfg (do pure (f (← P.peek))) msg) Q σ ↔ Q () σ := by
  unfold P.dbg P.peek P.rest
  split <;> fwp_eval
  exact ⟨fun h => h [], fun h _ => h⟩

/-- `hspec`: a pending `ExpectSymbol` names a symbol with a `Missing…` error, and the stack is not empty (the `popMode` of
`lex_expected_token` must not take its defensive branch) -/
theorem finalizeMode_fwp (cfg : Cfg) (m : Mode) (σ : FS) (Q : Unit → FS → Prop)
    (hspec : ∀ ty ch, m = .expectSymbol ty ch → (missingErr ty).isSome ∧ σ.modes ≠ [])
    (hQ : Q () (fin1 σ m)) : fwp (finalizeMode cfg m) Q σ := by
  unfold finalizeMode
  simp only [P.startToken]
  fwp_eval
  cases m
  case expectSymbol ty ch =>
    obtain ⟨h1, h2⟩ := hspec ty ch rfl
    obtain ⟨ek, hm⟩ := Option.isSome_iff_exists.1 h1
    obtain ⟨⟨ec, ek'⟩, he, rfl⟩ := Option.map_eq_some_iff.1 ((expectedCharAndError_missingErr ty).trans hm)
    rcases σ with ⟨toks, errs, _ | ⟨m0, ms⟩, tb, cur⟩
    · exact absurd rfl h2
    simp only [fin1, hm] at hQ
    have hne : ((none : Option Char) != some ec) = true := rfl
    simp only [lexExpectedToken, he, hne, if_true, Option.isSome_none, Bool.false_eq_true, if_false, P.peek, P.rest, P.mode,
      P.emitError, P.emit, P.popMode]
    split
    · fwp_eval
      split <;> (try intro _) <;> exact hQ
    · fwp_eval; exact hQ
  case stringExpr a =>
    simp only [handleUnterminatedStrExpr, lastTokIsStart, P.lastTokTy, P.emitD, P.emitError, fwp.bind_iff, fwp_dbg_peek]
    rcases σ with ⟨_ | ⟨⟨ty, ch, b⟩, ts⟩, errs, modes, tb, cur⟩
    · fwp_eval; exact hQ
    · by_cases hty : ty = .StringExprStart
      · subst hty
        fwp_eval; exact hQ
      · rw [fin1_stringExpr a fun ch b ts e => hty (by cases e; rfl)] at hQ
        fwp_eval; simpa [hty] using hQ
  case macroStrQuotedExpr m pnl | macroCallValue m pnl | macroEval m pnl =>
    simp only [fin1] at hQ
    simp only [P.emitError]
    split at hQ
    · rename_i h; simp only [h, if_true]; fwp_eval
      rw [Std.Legacy.Range.forIn_eq_forIn_range', fwp_forIn_emit]; simpa using hQ
    · rename_i h; simp only [h, if_false]; exact hQ
  case macroNameExpr f e => cases e <;> exact hQ
  all_goals exact hQ

/-! ### the specification's abstract tail (`Spec.C10.FinSt`) against the projection -/

/-- the specification's state `st` describes the projection `σ`: its tail lists the newest tokens (types, and channels
where it fixes them), the `st.owed` newest of them sit at the cursor, and its errors are the newest errors -/
structure Rep (st : FinSt) (σ : FS) : Prop where
  tail : tailMatches st.tail σ.toks = true
  ne : st.tail = [] → σ.toks = []
  owed : ∀ t ∈ σ.toks.take st.owed, t.2.2 = σ.cur
  errs : σ.errs.take st.errs.length = st.errs.reverse

namespace Rep
variable {st : FinSt} {σ : FS}

/-- `Rep` does not read the pending token start -/
theorem start (h : Rep st σ) (b : Nat) : Rep st { σ with tokByte := b } := ⟨h.tail, h.ne, h.owed, h.errs⟩

/-- an owed error is reported -/
theorem err (h : Rep st σ) (ek : ErrorKind) : Rep { st with errs := st.errs ++ [ek] } { σ with errs := ek :: σ.errs } :=
  ⟨h.tail, h.ne, h.owed, by simp [List.take_succ_cons, h.errs]⟩

/-- an owed token is supplied at the cursor -/
theorem push (h : Rep st σ) (ty : TokenType) (ch : Channel) :
    Rep { st with tail := (ty, some ch) :: st.tail, owed := st.owed + 1 } { σ with toks := (ty, ch, σ.cur) :: σ.toks } := by
  refine ⟨by simpa [tailMatches] using h.tail, nofun, fun t ht => ?_, h.errs⟩
  rcases List.mem_cons.1 ht with rfl | ht
  · rfl
  · exact h.owed t ht

/-- `replicate (n + 1) x ++ l` and `k + (n + 1)` unfold to `x :: (replicate n x ++ l)` and `(k + n) + 1` by computation -/
theorem pushN (h : Rep st σ) (ty : TokenType) (ch : Channel) : ∀ n : Nat,
    Rep { st with tail := List.replicate n (ty, some ch) ++ st.tail, owed := st.owed + n }
      { σ with toks := List.replicate n (ty, ch, σ.cur) ++ σ.toks }
  | 0 => h
  | n + 1 => (pushN h ty ch n).push ty ch

/-- the newest token is the one the specification has at the head of its tail -/
theorem head_iff (h : Rep st σ) (ty : TokenType) :
    (∃ oc r, st.tail = (ty, oc) :: r) ↔ ∃ ch b ts, σ.toks = (ty, ch, b) :: ts := by
  obtain ⟨hT, hN, -, -⟩ := h
  rcases hst : st.tail with _ | ⟨⟨ty', oc⟩, r⟩ <;> rcases hts : σ.toks with _ | ⟨⟨ty'', ch, b⟩, ts⟩ <;>
    simp_all [tailMatches]

/-- the newest token is replaced where it stands -/
theorem retype (h : Rep st σ) {ty0 ty0' : TokenType} {oc r ch0 b ts} (e1 : st.tail = (ty0, oc) :: r)
    (e2 : σ.toks = (ty0', ch0, b) :: ts) (ty : TokenType) (ch : Channel) :
    Rep { st with tail := (ty, some ch) :: r } { σ with toks := (ty, ch, b) :: ts } := by
  obtain ⟨hT, -, hO, hE⟩ := h
  rw [e2] at hO
  refine ⟨?_, nofun, fun t ht => ?_, hE⟩
  · simp only [e1, e2, tailMatches, Bool.and_eq_true] at hT
    simpa [tailMatches] using hT.2
  · cases ho : st.owed with
    | zero => simp [ho] at ht
    | succ k =>
      simp only [ho, List.take_succ_cons, List.mem_cons] at ht hO
      rcases ht with rfl | ht
      · exact hO (ty0', ch0, b) (.inl rfl)
      · exact hO t (.inr ht)

end Rep

theorem Rep.init (L : Lexer) : Rep (finInit (L.toksR.head?.map (·.ty))) (FS.of L) := by
  refine ⟨?_, ?_, by simp [finInit], by simp [finInit]⟩ <;> cases hl : L.toksR <;> simp [finInit, FS.of, hl, tailMatches]

theorem Rep.step {st st' : FinSt} {σ : FS} {m : Mode} (h : Rep st σ) (hs : finStep st σ.modes.isEmpty m = some st') :
    Rep st' (fin1 σ m) ∧ (fin1 σ m).modes = σ.modes ∧ (fin1 σ m).cur = σ.cur := by
  cases m
  case expectSymbol ty ch =>
    simp only [finStep] at hs
    split at hs
    · rename_i ek hm hb
      cases hs
      simp only [fin1, hm]
      exact ⟨((h.start σ.cur).err ek).push ty ch, trivial, trivial⟩
    · cases hs
  case expectSemiOrEOF | macroDo => cases hs; exact ⟨(h.start σ.cur).push .SEMI .DEFAULT, rfl, rfl⟩
  case macroStrQuotedExpr mk pnl | macroCallValue mk pnl | macroEval mk pnl =>
    simp only [finStep] at hs; simp only [fin1]
    split at hs <;> cases hs
    · rw [if_pos ‹_›]; exact ⟨((h.start σ.cur).err _).pushN .RPAREN .DEFAULT pnl, rfl, rfl⟩
    · rw [if_neg ‹_›]; exact ⟨h.start σ.cur, rfl, rfl⟩
  case stringExpr a =>
    simp only [finStep] at hs
    split at hs <;> cases hs
    · rename_i oc r e1
      obtain ⟨ch, b, ts, e2⟩ := (h.head_iff _).1 ⟨_, _, e1⟩
      simp only [fin1, e2]
      exact ⟨((h.retype e1 e2 .StringLiteral .DEFAULT).err _).start σ.cur, trivial, trivial⟩
    · rename_i hne
      rw [fin1_stringExpr a fun ch b ts e => by obtain ⟨oc, r, e1⟩ := (h.head_iff _).2 ⟨_, _, _, e⟩; exact hne _ _ e1]
      exact ⟨((h.start σ.cur).err _).push .StringExprEnd .DEFAULT, rfl, rfl⟩
  case macroNameExpr f e => cases e <;> cases hs <;> first | exact ⟨h.start σ.cur, rfl, rfl⟩ | exact ⟨(h.start σ.cur).err _, rfl, rfl⟩
  case macroDefName => cases hs; exact ⟨(h.start σ.cur).err _, rfl, rfl⟩
  all_goals cases hs; exact ⟨h.start σ.cur, rfl, rfl⟩

theorem finStep_spec {st st' : FinSt} {b : Bool} {m : Mode} (h : finStep st b m = some st') :
    ∀ ty ch, m = .expectSymbol ty ch → (missingErr ty).isSome ∧ b = false := by
  intro ty ch hm
  subst hm
  simp only [finStep] at h
  split at h
  · rename_i _ ek hh1; exact ⟨by rw [hh1]; rfl, rfl⟩
  · cases h

theorem finalizeLoop_fwp (cfg : Cfg) (Q : Unit → FS → Prop) : ∀ (f : Nat) (σ : FS) (st st' : FinSt),
    σ.modes.length < f → Rep st σ → finAll st σ.modes = some st' →
    (∀ σ', Rep st' σ' → σ'.modes = [] → σ'.cur = σ.cur → Q () σ') → fwp (finalizeLoop cfg f) Q σ
  | 0, σ, st, st', hf, _, _, _ => by omega
  | f + 1, σ, st, st', hf, hR, hA, hQ => by
    unfold finalizeLoop
    rcases σ with ⟨toks, errs, modes, tb, cur⟩
    cases modes with
    | nil =>
      cases hA
      fwp_eval
      exact hQ _ hR rfl rfl
    | cons m ms =>
      fwp_eval
      simp only [finAll] at hA
      cases hs : finStep st ms.isEmpty m with
      | none => simp [hs] at hA
      | some st1 =>
        simp only [hs] at hA
        obtain ⟨hR2, hm2, hc2⟩ := Rep.step (σ := ⟨toks, errs, ms, tb, cur⟩) ⟨hR.tail, hR.ne, hR.owed, hR.errs⟩ hs
        refine finalizeMode_fwp cfg m _ _ (fun ty ch hm => ⟨(finStep_spec hs ty ch hm).1, ?_⟩) ?_
        · rintro (rfl : ms = [])
          exact absurd (finStep_spec hs ty ch hm).2 nofun
        · refine finalizeLoop_fwp cfg Q f _ st1 st' ?_ hR2 (hm2 ▸ hA) fun σ' h1 h2 h3 => hQ σ' h1 h2 (h3.trans hc2)
          rw [hm2]
          exact Nat.lt_of_succ_lt_succ hf

/-- **Finalisation supplies exactly the owed closers** — for every lexer state, both profiles: if `finalize_lexing`
returns, the tokens are `… ++ owed ++ [EOF]` and the errors end with the owed reports, as computed by the
specification from the mode stack and the newest token's type before finalisation. -/
theorem finalizeLexing_closers (cfg : Cfg) (L1 : Lexer)
    (h : (Prog.run cfg (finalizeLexing cfg) L1).1 = some ()) :
    (∃ c rest, (FS.of (Prog.run cfg (finalizeLexing cfg) L1).2).toks = (.EOF, .DEFAULT, c) :: rest) ∧
    closersOK L1.modesR (L1.toksR.head?.map (·.ty)) (FS.of (Prog.run cfg (finalizeLexing cfg) L1).2).toks
      (FS.of (Prog.run cfg (finalizeLexing cfg) L1).2).errs = true := by
  refine ⟨?_, ?_⟩
  · obtain ⟨L2, -, e, -⟩ := finalizeLexing_run h
    rw [e]
    exact ⟨_, _, rfl⟩
  cases hA : finAll (finInit (L1.toksR.head?.map (·.ty))) L1.modesR with
  | none => simp only [closersOK, hA]
  | some st' =>
    refine fwp_sound cfg (finalizeLexing cfg) (fun _ σ' => closersOK L1.modesR _ σ'.toks σ'.errs = true) L1 ?_ () h
    unfold finalizeLexing
    fwp_eval
    refine finalizeLoop_fwp cfg _ _ (FS.of L1) _ st' (by simp [FS.of]; omega) (Rep.init L1) hA fun σ' hR' hm hc => ?_
    simp only [closersOK, hA, Bool.and_eq_true, List.all_eq_true, beq_iff_eq]
    exact ⟨⟨hR'.tail, hc ▸ hR'.owed⟩, hR'.errs⟩

end SasLexer
