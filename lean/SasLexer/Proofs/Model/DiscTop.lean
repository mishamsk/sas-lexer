import SasLexer.Proofs.Model.DiscMain
import SasLexer.Proofs.Model.DiscSound
import SasLexer.Proofs.Kernel.Mono
import SasLexer.Proofs.LexProgram
/-!
# What the scanning discipline gives for the modelled lexer (C04, C02)

`Final s L`: what `awp_sound` yields of the state before `into_detached` when the run ended at end of input
(`finalizeLexing_final`, `lexProgram_final`); `model_lines_exact` and `model_single_eof` read it off the detached buffer.
-/
namespace SasLexer

theorem new_DInv (cfg : Cfg) (s : List Char) : DInv false (Lexer.new cfg s) := by
  have hlen : (s.take (bomChars s)).length = bomChars s := List.length_take_of_le (bomChars_le s)
  have hidx : lineIdxOfChar s (bomChars s) = 0 := by
    simpa [lineIdxOfChar] using bom_no_nl s
  exact { pre := ⟨s.take (bomChars s), by simp, by simp [hlen], by simp [hlen],
                  by simp [LinesAt, lineTab, bomLine, lineStartsFrom_no_nl _ (bom_no_nl s)]⟩,
          tok := by simp [LineOK, hidx], mark := by simp, toks := by simp, errs := by simp, errReg := by simp,
          cp := by simp }

/-- what is known of the lexer state right before `into_detached` when the run ended at end of input -/
structure Final (s : List Char) (L : Lexer) : Prop where
  src : L.src = s
  kpos : KPos L
  lines : L.linesR.reverse = lineStarts s
  toks : ∀ t ∈ L.toksR, LineOK s t.start t.line
  errs : ∀ e ∈ L.errsR, ErrOK s e
  eof : ∃ e ts, L.toksR = e :: ts ∧ e.ty = .EOF ∧ e.start = s.length ∧ ∀ t ∈ ts, t.ty ≠ .EOF

theorem finalizeLexing_final (cfg : Cfg) (s : List Char) (L1 : Lexer) (hsrc : L1.src = s) (hk : KPos L1) (h : DInv false L1)
    (hp : L1.panicked = none) (hrest : L1.cur.rest = [])
    (hp2 : (Prog.run cfg (finalizeLexing cfg) L1).2.panicked = none) :
    Final s (Prog.run cfg (finalizeLexing cfg) L1).2 := by
  obtain ⟨L2, hR, hL2p, hsrc2, e⟩ := finalizeLexing_ok hp hp2
  rw [hsrc] at hsrc2
  have hw : awp (finalizeLoop cfg (L1.modesR.length * 2 + 2)) (fun _ r lag => r = [] ∧ lag = false) L1.cur.rest false := by
    rw [hrest]; exact (finalizeLoop_inert cfg _).awp' (fun _ => ⟨rfl, rfl⟩)
  obtain ⟨a', lag', _, hk2, h2, hr2, hlag⟩ := awp_sound cfg _ _ L1 false hk h hp hw (by rw [hR]; exact hL2p)
  rw [hR] at hk2 h2 hr2
  subst hlag
  rw [e]
  have hk3 := step_KPos cfg .emitEofAtCursor L2 hk2
  simp only [step, h2.lastLineOrAdd_eq] at hk3 ⊢
  obtain ⟨pre, hs, hc, hb, hl⟩ := h2.lines
  have hpre : pre = s := by rw [← hsrc2, hs, hr2]; simp
  refine { src := hsrc2, kpos := hk3,
           lines := by simpa [Lexer.bufAddToken, hl, hpre, hsrc2] using lineTab_full s,
           toks := ?_, errs := by simpa [Lexer.bufAddToken, hsrc2] using h2.errs, eof := ?_ }
  · intro t ht
    simp only [Lexer.bufAddToken, List.mem_cons] at ht
    rcases ht with rfl | ht
    · have := h2.curLineOK; rw [hsrc2] at this; exact this
    · have := (h2.toks t ht).1; rw [hsrc2] at this; exact this
  · refine ⟨_, L2.toksR, rfl, rfl, ?_, fun t ht => (h2.toks t ht).2⟩
    rw [Lexer.curChar, hc, hpre]

theorem lexProgram_final (cfg : Cfg) (s : List Char) (h : (lexProgram cfg s).ending = some .eof) :
    ∃ L2, Final s L2 ∧ (lexProgram cfg s).buf = (L2.intoDetached cfg).1 ∧
      (lexProgram cfg s).final = (L2.intoDetached cfg).2 ∧ (cfg.debug = true → SortedR L2.toksR) := by
  obtain ⟨⟨n, hm⟩, hl, hp2, hbuf, hfin, -⟩ := lexProgram_eof h
  have hp0 := new_panicked cfg s
  have hL1p : (mainRun cfg s).2.panicked = none := run_some_panicked cfg _ (Lexer.new cfg s) _ hp0 hm
  obtain ⟨a', lag', ha', hk1, h1, hq⟩ := awp_sound cfg _ _ (Lexer.new cfg s) false (new_KPos cfg s) (new_DInv cfg s) hp0
    (mainLoop_awp cfg _ _ _ _) hL1p
  rw [show Prog.run cfg _ (Lexer.new cfg s) = mainRun cfg s from rfl, hm, Option.some.injEq] at ha'
  subst ha'
  obtain ⟨rfl, hrest⟩ := hq
  refine ⟨lastState cfg s, ?_, hbuf, hfin, fun hd => ?_⟩
  · rw [hl] at hp2 ⊢
    exact finalizeLexing_final cfg s _ ((run_src ..).trans (new_src cfg s)) hk1 h1 hL1p (hrest rfl) hp2
  · rw [hl] at hp2 ⊢
    exact (run_KMono cfg hd _ _ (run_KMono cfg hd _ _ (new_KMono cfg s))).sorted hp2

theorem Final.detached (cfg : Cfg) {s : List Char} {L : Lexer} (h : Final s L) :
    (L.intoDetached cfg).1 = ⟨L.linesR.reverse, L.toksR.reverse, L.litsR.reverse⟩ ∧ (L.intoDetached cfg).2 = L := by
  obtain ⟨e, ts, hts, hty, _, _⟩ := h.eof
  have hne : L.linesR.isEmpty = false := by
    have := congrArg List.length h.lines
    cases hl : L.linesR with
    | nil => simp [hl, lineStarts] at this
    | cons a b => rfl
  unfold Lexer.intoDetached
  simp only [hne, Bool.false_eq_true, if_false, hts, hty, if_true]
  simp

/-- **the line table of the modelled lexer is exact** (C04, model level, all inputs): whenever the model
returns at end of input, the detached buffer's line table is `lineStarts s`, every token's line index is the
number of line feeds before its start, every token starts at or after the BOM, and every recorded error carries
the line and column the text dictates. -/
theorem model_lines_exact (cfg : Cfg) (s : List Char) (h : (lexProgram cfg s).ending = some .eof) :
    (lexProgram cfg s).buf.lines = lineStarts s ∧
    (∀ t ∈ (lexProgram cfg s).buf.toks, PosPair s t.byte t.start ∧ bomChars s ≤ t.start ∧ t.line = lineIdxOfChar s t.start) ∧
    (∀ e ∈ (lexProgram cfg s).final.errsR, e.line = lineIdxOfChar s e.char + 1 ∧ e.col = colOfChar s e.char) := by
  obtain ⟨L2, hf, hb, hfin, _⟩ := lexProgram_final cfg s h
  obtain ⟨hd1, hd2⟩ := hf.detached cfg
  rw [hb, hfin, hd1, hd2]
  refine ⟨hf.lines, ?_, fun e he => ⟨(hf.errs e he).line, (hf.errs e he).col⟩⟩
  intro t ht
  simp only [List.mem_reverse] at ht
  have hp := hf.kpos.toks t ht
  rw [hf.src] at hp
  exact ⟨hp, (hf.toks t ht).1, (hf.toks t ht).2⟩

/-- **exactly one `EOF`, last, at the end of the text** (C02, model level, all inputs) -/
theorem model_single_eof (cfg : Cfg) (s : List Char) (h : (lexProgram cfg s).ending = some .eof) :
    ∃ pre e, (lexProgram cfg s).buf.toks = pre ++ [e] ∧ e.ty = .EOF ∧ e.start = s.length ∧ e.byte = utf8Len s ∧
      ∀ t ∈ pre, t.ty ≠ .EOF := by
  obtain ⟨L2, hf, hb, _, _⟩ := lexProgram_final cfg s h
  obtain ⟨hd1, _⟩ := hf.detached cfg
  obtain ⟨e, ts, hts, hty, hst, hne⟩ := hf.eof
  rw [hb, hd1]
  refine ⟨ts.reverse, e, by simp [hts], hty, hst, ?_, fun t ht => hne t (by simpa using ht)⟩
  have hp := hf.kpos.toks e (by simp [hts])
  rw [hf.src] at hp
  obtain ⟨p, q, hs, hbyte, hlen⟩ := hp
  have : q = [] := by
    have := congrArg List.length hs
    cases q with
    | nil => rfl
    | cons a b => simp at this; omega
  subst this
  simp at hs; subst hs; exact hbyte

end SasLexer
