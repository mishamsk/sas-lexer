import SasLexer.Proofs.Model.Cover
import SasLexer.Proofs.Kernel.Run
/-!
# Soundness of `cwp`: the oldest token starts at the end of the BOM

`CInv σ L` is what the abstract state `σ : CS` means of a lexer state: `ne` ⇔ the buffer is non-empty, and then its oldest
token starts at the BOM end; the pending token start, the cursor and the mark sit at the BOM end where the flags say
so; `CpRel`: the live checkpoint saved a state that `σ.cp` describes.  `step_CInv`: a primitive whose side condition
`cOk` holds keeps it; `cwp_sound`: hence every program with `cwp`, on every run.
-/
namespace SasLexer
open Lexer

/-- the checkpoint clause: the abstract checkpoint describes the concrete one -/
def CpRel (src : List Char) (toksR : List TokInfo) : Option (Bool × Bool × Bool) → Option Checkpoint → Prop
  | none, c => c = none
  | some (n, t, a), c => ∃ k, c = some k ∧ (n = true → 1 ≤ k.nToks) ∧ k.nToks ≤ toksR.length ∧ (n = false → k.nToks = 0) ∧
      (t = true → k.tok.start = bomChars src) ∧ (a = true → k.cur.charOff = bomChars src)

structure CInv (σ : CS) (L : Lexer) : Prop where
  ne_iff : σ.ne = true ↔ L.toksR ≠ []
  first : L.toksR ≠ [] → ∃ t, L.toksR.getLast? = some t ∧ t.start = bomChars L.src
  tokAt : σ.tokAt = true → L.tok.start = bomChars L.src
  atS : σ.atS = true → L.cur.charOff = bomChars L.src
  markNone : σ.mark = none ↔ L.mark = none
  markAt : σ.mark = some true → ∀ m, L.mark = some m → m.start = bomChars L.src
  cp : CpRel L.src L.toksR σ.cp L.cp

theorem cpRel_len {src : List Char} {ts ts' : List TokInfo} {c : Option Checkpoint} :
    ∀ {a : Option (Bool × Bool × Bool)}, CpRel src ts a c → ts.length ≤ ts'.length → CpRel src ts' a c
  | none, h, _ => h
  | some (_, _, _), ⟨k, hk, h1, h2, h3⟩, hl => ⟨k, hk, h1, Nat.le_trans h2 hl, h3⟩

theorem getLast?_cons_of_ne_nil {α} (a : α) {l : List α} (h : l ≠ []) : (a :: l).getLast? = l.getLast? := by
  cases l with
  | nil => exact absurd rfl h
  | cons b l => exact List.getLast?_cons_cons

/-- the oldest token stays where it is when the list is replaced by one whose oldest token starts at the same place -/
theorem oldest_of_last {ts ts' : List TokInfo} {b : Nat} (hlast : ts'.getLast?.map (·.start) = ts.getLast?.map (·.start))
    (h : ∃ t, ts.getLast? = some t ∧ t.start = b) : ∃ t, ts'.getLast? = some t ∧ t.start = b :=
  Option.map_eq_some_iff.1 (hlast ▸ Option.map_eq_some_iff.2 h)

theorem retype_starts {e n : TokenType} : ∀ {ts ts' : List TokInfo},
    retypeLastDefaultAux e n ts = some ts' → ts'.map (·.start) = ts.map (·.start) := by
  intro ts ts' h
  obtain ⟨a, t, b, rfl, rfl, -⟩ := retype_eq h
  simp

theorem insertSep_last : ∀ {ts ts' : List TokInfo}, insertSepAux ts = some ts' →
    ts'.length = ts.length + 1 ∧ ts'.getLast?.map (·.start) = ts.getLast?.map (·.start) := by
  intro ts ts' h
  refine ⟨length_insertSep h, ?_⟩
  obtain ⟨a, t, b, rfl, rfl⟩ := insertSep_eq h
  cases b <;> simp [List.getLast?_append, List.getLast?_cons_cons]

theorem last_start_of_map {ts ts' : List TokInfo} (h : ts'.map (·.start) = ts.map (·.start)) :
    ts'.getLast?.map (·.start) = ts.getLast?.map (·.start) := by
  have := congrArg List.getLast? h
  simpa [List.getLast?_map] using this

namespace CInv
variable {σ : CS} {L : Lexer} {cfg : Cfg}

/-- `CInv` only reads these fields -/
theorem congr {L L' : Lexer} (h : CInv σ L)
    (e1 : L'.src = L.src) (e3 : L'.cur = L.cur) (e4 : L'.tok = L.tok)
    (e5 : L'.toksR = L.toksR) (e8 : L'.cp = L.cp) (e9 : L'.mark = L.mark) : CInv σ L' := by
  constructor <;> simp only [e1, e3, e4, e5, e8, e9]
  · exact h.ne_iff
  · exact h.first
  · exact h.tokAt
  · exact h.atS
  · exact h.markNone
  · exact h.markAt
  · exact h.cp

theorem emitError (h : CInv σ L) (k : ErrorKind) : CInv σ (L.emitError k) :=
  h.congr rfl rfl rfl rfl rfl rfl

/-- adding a token that starts at the BOM end if it is the first one -/
theorem bufAddToken (h : CInv σ L) {t : TokInfo} (ht : σ.ne = true ∨ t.start = bomChars L.src) :
    CInv { σ with ne := true } (L.bufAddToken cfg t) := by
  refine { h with ne_iff := ⟨fun _ => List.cons_ne_nil _ _, fun _ => rfl⟩, first := fun _ => ?_,
                  cp := cpRel_len h.cp (Nat.le_succ _) }
  by_cases hl : L.toksR = []
  · exact ⟨t, by simp [Lexer.bufAddToken, hl], ht.resolve_left fun hne => h.ne_iff.1 hne hl⟩
  · exact oldest_of_last (congrArg _ (getLast?_cons_of_ne_nil t hl)) (h.first hl)

/-- replacing the token list by one at least as long whose oldest token starts at the same place -/
theorem withToks (h : CInv σ L) {ts : List TokInfo} (hl : L.toksR.length ≤ ts.length)
    (hlast : ts.getLast?.map (·.start) = L.toksR.getLast?.map (·.start)) : CInv σ { L with toksR := ts } := by
  have e : ts = [] ↔ L.toksR = [] :=
    ⟨fun e => List.eq_nil_of_length_eq_zero (Nat.le_zero.1 (by rw [e] at hl; exact hl)),
     fun e => List.getLast?_eq_none_iff.1 (Option.map_eq_none_iff.1 (hlast.trans (by rw [e]; rfl)))⟩
  exact { h with ne_iff := h.ne_iff.trans (not_congr e.symm), first := fun hts => oldest_of_last hlast (h.first (mt e.2 hts)),
                 cp := cpRel_len h.cp hl }

theorem lastLineOrAdd (h : CInv σ L) : CInv σ (L.lastLineOrAdd cfg).2 :=
  h.congr (lastLineOrAdd_src cfg L) (lastLineOrAdd_cur cfg L) (lastLineOrAdd_tok cfg L) (lastLineOrAdd_toksR cfg L)
    (lastLineOrAdd_cp cfg L) (lastLineOrAdd_mark cfg L)

theorem popMode (h : CInv σ L) : CInv σ L.popMode :=
  h.congr (popMode_src L) (popMode_cur L) (popMode_tok L) (popMode_toksR L) (popMode_cp L) (popMode_mark L)

/-- the cursor moves: only `atS` (and `fresh`) are given up -/
theorem withCur (h : CInv σ L) (cur' : Cursor) : CInv { σ with atS := false, fresh := false } { L with cur := cur' } :=
  { h with atS := nofun }

theorem mark_some (h : CInv σ L) {m : Pos3} (hm : L.mark = some m) : ∃ b, σ.mark = some b :=
  Option.ne_none_iff_exists'.1 fun e => by simpa [hm] using h.markNone.1 e

end CInv

/-- **one step**: an operation whose side condition `cOk` holds keeps the concrete invariant, with the abstract
state advanced by `cNext` -/
theorem step_CInv (cfg : Cfg) (o : Op) (L : Lexer) (σ : CS) (h : CInv σ L) (hok : cOk o σ) :
    CInv (cNext o σ) (step cfg o L).2 := by
  cases o
  case emitEofAtCursor => exact hok.elim
  case advance | eatWhile => exact h.withCur _
  case advanceBy n => exact (h.congr (L' := L.dassert cfg _ _) rfl rfl rfl rfl rfl rfl).withCur _
  case startToken =>
    exact { h.lastLineOrAdd (cfg := cfg) with
            tokAt := fun hat => (h.atS hat).trans (congrArg bomChars (lastLineOrAdd_src cfg L).symm) }
  case markIfNone =>
    simp only [step, cNext, Lexer.markIfNone]
    cases hm : L.mark with
    | some m => obtain ⟨b, hb⟩ := h.mark_some hm; rw [hb]; exact h
    | none =>
      rw [h.markNone.2 hm]
      refine { h.lastLineOrAdd (cfg := cfg) with markNone := by simp, markAt := fun hat m hmm => ?_ }
      cases hmm
      exact (h.atS (Option.some.inj hat)).trans (congrArg bomChars (lastLineOrAdd_src cfg L).symm)
  case clearMark => exact { h with markNone := ⟨fun _ => rfl, fun _ => rfl⟩, markAt := nofun }
  case emitToken ch ty p => exact h.bufAddToken (hok.imp_right h.tokAt)
  case emitTokenAtMark ch ty p =>
    simp only [step, Lexer.emitTokenAtMark]
    cases hm : L.mark with
    | none => simpa only [cNext, h.markNone.2 hm] using h
    | some m =>
      obtain ⟨b, hb⟩ := h.mark_some hm
      rw [show cNext (.emitTokenAtMark ch ty p) σ = { σ with ne := true } by simp only [cNext, hb]]
      refine h.bufAddToken (t := ⟨ch, ty, m.byte, m.start, m.line, _⟩) (hok.imp_right fun hmk => h.markAt ?_ m hm)
      cases b
      · exact absurd hb hmk
      · exact hb
  case updateLastToken ch ty p =>
    simp only [step, cNext, Lexer.updateLastToken]
    cases hl : L.toksR with
    | cons t ts =>
      have hσ : { σ with ne := true } = σ := by rw [← h.ne_iff.2 (hl ▸ List.cons_ne_nil t ts)]
      rw [hσ]
      exact h.withToks (ts := { t with chan := ch, ty := ty, payload := _ } :: ts) (by simp [hl])
        (hl ▸ last_start_of_map rfl)
    | nil => exact (h.emitError _).bufAddToken (hok.imp_right h.tokAt)
  case retypeLastDefault e n =>
    exact step_retype h fun _ hts => h.withToks (Nat.le_of_eq (length_retype hts).symm) (last_start_of_map (retype_starts hts))
  case insertSepBeforeLastDefault =>
    exact step_insertSep h fun _ hts => h.withToks (by rw [(insertSep_last hts).1]; omega) (insertSep_last hts).2
  case checkpoint =>
    exact { h with cp := ⟨_, rfl, fun hne => List.length_pos_iff.2 (h.ne_iff.1 hne), Nat.le_refl _,
      fun hne => List.length_eq_zero_iff.2 (Decidable.not_not.1 (mt h.ne_iff.2 (Bool.eq_false_iff.1 hne))), h.tokAt, h.atS⟩ }
  case clearCheckpoint => exact { h with cp := rfl }
  case bumpCheckpointModeLen n =>
    refine { h with cp := ?_ }
    show CpRel L.src L.toksR σ.cp (L.cp.map _)
    match σ.cp, L.cp, h.cp with
    | none, _, rfl => rfl
    | some (_, _, _), _, ⟨k, rfl, hr⟩ => exact ⟨_, rfl, hr⟩
  case rollback =>
    simp only [step, cNext, Lexer.rollback]
    match σ.cp, L.cp, h.cp with
    | none, _, rfl => exact h.emitError _
    | some (n, t, a), _, ⟨k, rfl, h1, h2, h3, h4, h5⟩ =>
      have hn : n = true ↔ truncR L.toksR k.nToks ≠ [] := by
        cases n
        · simp [h3 rfl, truncR_zero]
        · exact iff_of_true rfl (truncR_ne_nil (fun e => by rw [e] at h2; exact absurd (Nat.le_trans (h1 rfl) h2) (by simp)) (h1 rfl))
      refine { h with ne_iff := hn, first := fun hne => ?_, tokAt := h4, atS := h5, cp := rfl }
      rw [truncR_getLast _ _ (h1 (hn.2 hne)) h2]
      exact h.first fun e => by rw [e] at h2; exact absurd (Nat.le_trans (h1 (hn.2 hne)) h2) (by simp)
  all_goals exact h.congr step_frame.src (step_frame.cur rfl) (step_frame.tok rfl) (step_frame.toksR rfl) (step_frame.cp rfl) (step_frame.mark rfl)

/-- operations that keep `fresh` leave the text in front of the cursor alone -/
theorem step_rest_same (cfg : Cfg) (o : Op) (L : Lexer) (σ : CS) (h : CInv σ L) (hf : (cNext o σ).fresh = true) :
    (step cfg o L).2.cur.rest = L.cur.rest := by
  cases o
  case advance | advanceBy | eatWhile => cases hf
  case rollback =>
    match hs : σ.cp, h.cp with
    | none, (hc : L.cp = none) => exact congrArg _ (show L.rollback.cur = L.cur by simp only [Lexer.rollback, hc, fld])
    | some (_, _, _), _ => simp [cNext, hs] at hf
  all_goals exact congrArg _ (step_frame.cur rfl)

/-- `fresh` is never set, only cleared -/
theorem cNext_fresh {o : Op} {σ : CS} (hf : (cNext o σ).fresh = true) : σ.fresh = true := by
  cases o <;> simp only [cNext] at hf <;> first | exact hf | (simp at hf) | (split at hf <;> first | exact hf | simp at hf)

theorem smallRest_of_kpos {L : Lexer} (hk : KPos L) (hs : L.src.length < 4294967296) : SmallRest L.cur.rest := by
  obtain ⟨_, pre, hsrc, _⟩ := hk.cur
  unfold SmallRest
  have := congrArg List.length hsrc
  simp at this; omega

theorem cwp_sound (cfg : Cfg) (R : List Char → Prop) {α : Type} (p : Prog α) (Q : α → CS → Prop) :
    ∀ (L : Lexer) (σ : CS), CInv σ L → KPos L → L.src.length < 4294967296 → (σ.fresh = true → R L.cur.rest) →
      L.panicked = none → cwp R p Q σ → (Prog.run cfg p L).2.panicked = none →
      ∃ a σ', (Prog.run cfg p L).1 = some a ∧ CInv σ' (Prog.run cfg p L).2 ∧ KPos (Prog.run cfg p L).2 ∧ Q a σ' := by
  intro L σ h hk hs hR hp0 hw hpr
  obtain ⟨-, hq⟩ := run_sound cfg (J := fun _ => True) (W := fun p σ => cwp R p Q σ)
    (Inv := fun σ L => CInv σ L ∧ KPos L ∧ L.src.length < 4294967296 ∧ (σ.fresh = true → R L.cur.rest))
    (fun _ _ _ => trivial) (fun _ _ h => cwp.ret_iff.1 h)
    (fun o k σ L hw ⟨h, hk, hs, hR⟩ => ⟨trivial, fun hp => by
      have hpn : ∀ m, o ≠ .panic m := fun m hm => panic_panicked cfg m L (hm ▸ hp)
      by_cases hr : o = .rest
      · subst hr
        exact ⟨σ, ⟨h, hk, hs, hR⟩, cwp.rest_iff.1 hw L.cur.rest (smallRest_of_kpos hk hs) hR⟩
      · rw [cwp.op_iff hpn hr] at hw
        exact ⟨cNext o σ, ⟨step_CInv cfg o L σ h hw.1, step_KPos cfg o L hk, step_frame.src.symm ▸ hs,
          fun hf => step_rest_same cfg o L σ h hf ▸ hR (cNext_fresh hf)⟩, hw.2 _⟩⟩) p σ L hw ⟨h, hk, hs, hR⟩
  obtain ⟨a, hr⟩ := Option.isSome_iff_exists.1 (run_isSome cfg p L hpr)
  obtain ⟨σ', hQ, hi, hk', -⟩ := hq a hr
  exact ⟨a, σ', hr, hi, hk', hQ⟩

end SasLexer
