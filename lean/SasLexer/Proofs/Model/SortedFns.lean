import SasLexer.Proofs.Model.Sorted
import SasLexer.Proofs.Model.FootprintFns
/-! # Every function of the modelled control logic keeps token starts sorted

A program that performs only primitives that keep a fresh token start fresh is `SClean` (`SClean.of_uses`): that
settles the scanners by their footprint (`FootprintFns.lean`).  What remains are the two scanners that make the start
stale and restore it (`lex_predicted_comment` by `rollback`, the `%eval` text scanner by the token at the mark), and
the dispatchers, which are entered in any state and call `startToken` first (`SAny`). -/
namespace SasLexer
open P Prog

theorem SClean.of_uses {α : Type} {p : Prog α} (h : p.Uses (keepsFresh · = true) fun _ _ => True) : SClean p :=
  h.elim SClean.pure SClean.op SClean.bind

theorem Ordinary.keepsFresh {sep : Bool} (o : Op) (h : Ordinary sep o) : keepsFresh o = true := by
  cases o <;> first | rfl | cases h.2

namespace SClean
theorem peekNext : SClean P.peekNext := by unfold P.peekNext; exact SClean.bind (SClean.op _ rfl) (fun _ => SClean.pure _)
theorem advance : SClean P.advance := SClean.op _ rfl
theorem advanceBy (n : Nat) : SClean (P.advanceBy n) := SClean.op _ rfl
theorem eatWhile (p : Char → Bool) : SClean (P.eatWhile p) := SClean.op _ rfl
theorem addLine : SClean P.addLine := SClean.op _ rfl
theorem startToken : SClean P.startToken := SClean.op _ rfl
theorem emitError (k) : SClean (P.emitError k) := SClean.op _ rfl
theorem pushMode (m) : SClean (P.pushMode m) := SClean.op _ rfl
theorem popMode : SClean P.popMode := SClean.op _ rfl
theorem unmodelled (m) : SClean (P.unmodelled m) := SClean.op _ rfl
end SClean

namespace SAny
theorem peekNext : SAny P.peekNext := by
  unfold P.peekNext
  exact SAny.bind (SAny.op _ fun _ => True.intro) (fun _ => SAny.pure _)
theorem pushMode (m) : SAny (P.pushMode m) := SAny.op _ fun _ => True.intro
theorem popMode : SAny P.popMode := SAny.op _ fun _ => True.intro
theorem emitError (k) : SAny (P.emitError k) := SAny.op _ fun _ => True.intro
theorem startToken {β : Type} {f : Unit → Prog β} (hf : ∀ a, SC (f a)) : SAny (P.startToken >>= f) := SAny.start hf
theorem lastTokTy : SAny P.lastTokTy := by
  unfold P.lastTokTy; exact SAny.bind (SAny.op _ fun _ => True.intro) (fun _ => SAny.pure _)
end SAny

/-- walk the program by rule application (rules of all three predicates; the goal's head selects); a scanner by
its lemma or by its footprint.  The rules come first `with_reducible`: one that does not fit has to fail at once, not
after the program has been unfolded; the structural ones before the callees, which are many and each has to be
elaborated to be tried; the last two lines are for the helpers that are `do` blocks (`dbg`, `peekNext`, …).  An entry of the list is used as a lemma
where its statement fits the goal and as a footprint (`SClean.of_uses`) where it is an `X_fp`. -/
syntax "sauto" "[" term,* "]" : tactic
macro_rules
  | `(tactic| sauto [$ls,*]) => `(tactic| repeat' (first
      | intro _
      | with_reducible (first
        | apply SClean.pure | apply SAny.pure
        | apply SClean.bind | apply SClean.ite
        | apply SAny.startToken
        | apply SAny.bind | apply SAny.ite
        | apply SC.bind | apply SC.ite
        | (first $[| apply $ls]*)
        | (apply SClean.of_uses; first $[| exact $ls]*)
        | (apply SClean.sc; first $[| apply $ls]*)
        | (apply SClean.sc; apply SClean.of_uses; first $[| exact $ls]*)
        | (apply SAny.sc; first $[| apply $ls]*))
      | (apply SClean.op; rfl)
      | (apply SAny.op; exact fun _ => True.intro)
      | split
      | apply SClean.bind | apply SAny.bind | apply SAny.ite
      | apply SClean.sc))

variable {cfg : Cfg} {c : Char} {b l mm fn t : Bool} {flags pnl : Nat} {err : Option ErrorKind} {m : Mode}

/-- symbolic evaluation of `swp` on concrete operations -/
macro "swp_eval" : tactic => `(tactic| simp only [swp.bind_iff, swp.pure_iff, swp.ite_iff, swp, sOk, sNext, Prog.perform,
  P.rest, P.emit, P.abort, true_and, forall_const])

/-- `swp_eval`, and the facts in the list where it leaves one of them as goal -/
syntax "swp_auto" "[" term,* "]" : tactic
macro_rules
  | `(tactic| swp_auto [$ls,*]) => `(tactic| repeat' (first
      | intro _
      | (first $[| exact $ls]*)
      | swp_eval
      | refine ⟨?_, ?_⟩
      | apply swp.ite_intro
      | split
      | trivial))

/-- the look-ahead of the comment prediction: a checkpoint taken with a fresh token start brings it back -/
theorem predictedMacroLoop_s : ∀ (f : Nat) (Q : Bool → SS → Prop) (σ : SS), σ.stale = false → σ.cpc = true →
    (∀ a σ', σ'.stale = false → Q a σ') → swp (predictedMacroLoop f) Q σ
  | 0, Q, σ, hs, hc, hQ => by unfold predictedMacroLoop; swp_eval
  | f + 1, Q, σ, hs, hc, hQ => by
    unfold predictedMacroLoop
    have hs' : (σ.stale || !σ.cpc) = false := by simp [hs, hc]
    swp_auto [hQ _ _ hs, hQ _ _ hs', predictedMacroLoop_s f Q _ hs hc hQ]

theorem lexPredictedComment_sclean : SClean lexPredictedComment := by
  unfold SClean
  intro Q σ hs hQ
  unfold lexPredictedComment
  have hF := Ordinary.keepsFresh (sep := false)
  have ho : ∀ f, SClean (predictedOpenLoop f) := fun f => .of_uses (predictedOpenLoop_fp (cfg := default) hF f)
  have hf : SClean fuelOfRest := .of_uses (fuelOfRest_fp (cfg := default) hF)
  swp_eval
  intro ps
  split
  · exact hQ _ _ hs
  · intro n
    split
    · exact hf.swp hs fun fuel σ1 hs1 => (ho fuel).swp hs1 fun _ σ2 hs2 => ⟨hs2, hQ _ _ hs2⟩
    · -- after `checkpoint` the abstract state records that it was taken with a fresh token start
      have hfr : swp fuelOfRest (fun a σ' => σ'.stale = false ∧ σ'.cpc = true) { stale := σ.stale, mrk := σ.mrk, cpc := !σ.stale } := by
        unfold fuelOfRest; swp_eval; first | (intro _; simp [hs]) | simp [hs]
      refine swp.mono ?_ hfr
      intro fuel σ1 ⟨hs1, hc1⟩
      apply predictedMacroLoop_s fuel _ σ1 hs1 hc1
      intro b σ2 hs2
      swp_auto [hs2, hQ _ _ hs2]

theorem lexSymbols_sclean : SClean (lexSymbols cfg c) := by
  have hF := Ordinary.keepsFresh (sep := cfg.macroSep)
  unfold lexSymbols; sauto [lexPredictedComment_sclean, lexNumericLiteral_fp hF, lexCharFormat_fp hF]

/-- the text scanner of macro expressions: the mark register is set only by it and after the dispatcher's
`startToken`, so the hidden `WS` token emitted at the mark starts at or after the pending token start -/
theorem evalCtxLoop_s (flags : Nat) (t : Bool) : ∀ (f : Nat) (a b : Bool) (Q : Bool → SS → Prop) (σ : SS),
    σ.stale = false → σ.mrk ≠ .invalid → (∀ x σ', σ'.stale = false → σ'.mrk ≠ .invalid → Q x σ') →
    swp (lexMacroStringInMacroEvalContextLoop flags t f a b) Q σ
  | 0, _, _, Q, σ, hs, hm, hQ => by unfold lexMacroStringInMacroEvalContextLoop; swp_eval
  | f + 1, a, b, Q, σ, hs, hm, hQ => by
    unfold lexMacroStringInMacroEvalContextLoop
    have hm0 : MK.none ≠ MK.invalid := by simp
    have hm1 : (match σ.mrk with | .none => MK.valid | m => m) ≠ MK.invalid := by cases h : σ.mrk <;> simp_all
    swp_auto [hQ _ _ hs hm, hQ _ _ hs hm0, evalCtxLoop_s flags t f _ _ Q _ hs hm hQ,
      evalCtxLoop_s flags t f _ _ Q _ hs hm0 hQ, evalCtxLoop_s flags t f _ _ Q _ hs hm1 hQ]

theorem lexMacroStringInMacroEvalContext_sc : SC (lexMacroStringInMacroEvalContext cfg flags t) := by
  unfold SC
  intro Q σ hs hQ
  unfold lexMacroStringInMacroEvalContext
  have hF := Ordinary.keepsFresh (sep := cfg.macroSep)
  -- the assertion first and by its footprint, so that its branches do not copy what follows
  have hA : SClean (dbg cfg (do match (← mode) with
              | .macroEval f _ => pure (f == flags)
              | _ => pure false) "lex_macro_string_in_macro_eval_context: mode") :=
    .of_uses (Sat.dbg hF (by footprint hF []))
  rw [swp.bind_iff]
  refine hA.swp hs fun _ σ1 hs1 => ?_
  swp_eval
  have hfr : swp fuelOfRest (fun _ σ' => σ'.stale = false ∧ σ'.mrk ≠ .invalid)
      { stale := σ1.stale, mrk := MK.none, cpc := σ1.cpc } := by
    unfold fuelOfRest; swp_eval; exact ⟨hs1, by simp⟩
  refine swp.mono ?_ hfr
  intro fuel σ2 ⟨hs2, hm2⟩
  refine swp.mono ?_ (evalCtxLoop_s flags t fuel true true (fun _ σ' => σ'.stale = false ∧ σ'.mrk ≠ .invalid) σ2 hs2 hm2
    fun _ _ a b => ⟨a, b⟩)
  intro tn σ3 ⟨hs3, hm3⟩
  swp_auto [hs3, hm3, hQ _ _]

theorem switchToValueMode_sany : SAny (switchToValueMode flags) := by
  unfold switchToValueMode; sauto []

theorem dispatchMacroDo_sany : SAny (dispatchMacroDo cfg c) := by
  have hF := Ordinary.keepsFresh (sep := cfg.macroSep)
  unfold dispatchMacroDo; sauto [lexMacroIdentifier_fp hF]

theorem dispatchMacroLocalGlobal_sany : SAny (dispatchMacroLocalGlobal cfg c l) := by
  unfold dispatchMacroLocalGlobal expectMacroLetStat; sauto []

theorem dispatchModeDefault_sany : SAny (dispatchModeDefault cfg c) := by
  have hF := Ordinary.keepsFresh (sep := cfg.macroSep)
  unfold dispatchModeDefault; sauto [lexWs_fp hF, lexSingleQuotedStr_fp hF, lexStringExpressionStart_fp hF, lexCStyleComment_fp hF, lexMacroVarExpr_fp hF, lexMacroComment_fp hF, lexMacroIdentifier_fp hF, lexNumericLiteral_fp hF, lexIdentifier_fp hF, lexSymbols_sclean]

theorem dispatchModeStrExpr_sany : SAny (dispatchModeStrExpr cfg c b) := by
  have hF := Ordinary.keepsFresh (sep := cfg.macroSep)
  unfold dispatchModeStrExpr lastTokIsStart; sauto [lexStrExprText_fp hF, lexDoubleQuotedLiteral_fp hF, lexMacroVarExpr_fp hF, lexMacroIdentifier_fp hF]

theorem dispatchModeMacroEval_sany : SAny (dispatchModeMacroEval cfg c flags pnl) := by
  have hF := Ordinary.keepsFresh (sep := cfg.macroSep)
  unfold dispatchModeMacroEval; sauto [lexSingleQuotedStr_fp hF, lexStringExpressionStart_fp hF, lexCStyleComment_fp hF, lexMacroVarExpr_fp hF, lexMacroCall_fp hF, maybeEmitEmptyMacroStringInEval_fp hF, lexMacroEvalOperator_fp hF, lexMacroStringInMacroEvalContext_sc]

theorem dispatchMacroNameExpr_sany : SAny (dispatchMacroNameExpr cfg c fn err) := by
  have hF := Ordinary.keepsFresh (sep := cfg.macroSep)
  unfold dispatchMacroNameExpr; sauto [lexCStyleComment_fp hF, lexMacroVarExpr_fp hF, lexMacroCall_fp hF]

theorem dispatchMacroSemiTermTextExpr_sany : SAny (dispatchMacroSemiTermTextExpr cfg c) := by
  have hF := Ordinary.keepsFresh (sep := cfg.macroSep)
  unfold dispatchMacroSemiTermTextExpr; sauto [lexSingleQuotedStr_fp hF, lexStringExpressionStart_fp hF, lexCStyleComment_fp hF, lexMacroVarExpr_fp hF, lexMacroCall_fp hF, lexMacroStringUnrestricted_fp hF]

theorem dispatchMacroStatOptsTextExpr_sany : SAny (dispatchMacroStatOptsTextExpr cfg c) := by
  have hF := Ordinary.keepsFresh (sep := cfg.macroSep)
  unfold dispatchMacroStatOptsTextExpr; sauto [lexSingleQuotedStr_fp hF, lexStringExpressionStart_fp hF, lexCStyleComment_fp hF, lexMacroVarExpr_fp hF, lexMacroCall_fp hF, lexMacroStringStatOpts_fp hF, lexWs_fp hF]

theorem lexMaybeMacroCallArgsOrLabel_sany : SAny (lexMaybeMacroCallArgsOrLabel cfg c b) := by
  unfold lexMaybeMacroCallArgsOrLabel; sauto []

theorem lexMaybeMacroCallArgAssign_sany : SAny (lexMaybeMacroCallArgAssign cfg c flags) := by
  unfold lexMaybeMacroCallArgAssign; sauto []

theorem lexMaybeTailMacroCallArgValue_sany : SAny (lexMaybeTailMacroCallArgValue cfg c) := by
  unfold lexMaybeTailMacroCallArgValue; sauto []

theorem dispatchMacroCallArgOrValue_sany : SAny (dispatchMacroCallArgOrValue cfg c flags) := by
  have hF := Ordinary.keepsFresh (sep := cfg.macroSep)
  unfold dispatchMacroCallArgOrValue pushCheckAssign safePopMode; sauto [lexMacroVarExpr_fp hF, lexMacroComment_fp hF, lexMacroIdentifier_fp hF, populateNextArgStack_fp hF, switchToValueMode_sany]

theorem dispatchMacroCallArgValue_sany : SAny (dispatchMacroCallArgValue cfg c flags pnl) := by
  have hF := Ordinary.keepsFresh (sep := cfg.macroSep)
  unfold dispatchMacroCallArgValue; sauto [lexSingleQuotedStr_fp hF, lexStringExpressionStart_fp hF, lexCStyleComment_fp hF, lexMacroVarExpr_fp hF, lexMacroComment_fp hF, lexMacroIdentifier_fp hF, lexMacroStringInMacroCallArgValue_fp hF, populateNextArgStack_fp hF]

theorem lexMaybeMacroDefArgs_sany : SAny (lexMaybeMacroDefArgs cfg c) := by
  unfold lexMaybeMacroDefArgs; sauto []

theorem dispatchMacroDefArg_sany : SAny (dispatchMacroDefArg cfg c) := by
  have hF := Ordinary.keepsFresh (sep := cfg.macroSep)
  unfold dispatchMacroDefArg; sauto [lexMacroDefIdentifier_fp hF]

theorem lexMacroDefNextArgOrDefaultValue_sany : SAny (lexMacroDefNextArgOrDefaultValue cfg c) := by
  unfold lexMacroDefNextArgOrDefaultValue; sauto []

theorem dispatchMacroStrQuotedExpr_sany : SAny (dispatchMacroStrQuotedExpr cfg c mm pnl) := by
  have hF := Ordinary.keepsFresh (sep := cfg.macroSep)
  unfold dispatchMacroStrQuotedExpr; sauto [lexSingleQuotedStr_fp hF, lexStringExpressionStart_fp hF, lexCStyleComment_fp hF, lexMacroVarExpr_fp hF, lexMacroIdentifier_fp hF, lexMacroStringInStrCall_fp hF]

theorem dispatchMacroMode_sany : SAny (dispatchMacroMode cfg c m) := by
  have hF := Ordinary.keepsFresh (sep := cfg.macroSep)
  cases m <;> simp only [dispatchMacroMode]
  case macroEval f p => exact dispatchModeMacroEval_sany
  case macroStrQuotedExpr mm p => exact dispatchMacroStrQuotedExpr_sany
  case maybeMacroCallArgsOrLabel b => exact lexMaybeMacroCallArgsOrLabel_sany
  case maybeMacroCallArgAssign f => exact lexMaybeMacroCallArgAssign_sany
  case maybeTailMacroArgValue => exact lexMaybeTailMacroCallArgValue_sany
  case macroCallArgOrValue f => exact dispatchMacroCallArgOrValue_sany
  case macroCallValue f p => exact dispatchMacroCallArgValue_sany
  case maybeMacroDefArgs => exact lexMaybeMacroDefArgs_sany
  case macroDefArg => exact dispatchMacroDefArg_sany
  case macroDefNextArgOrDefaultValue => exact lexMacroDefNextArgOrDefaultValue_sany
  case macroDo => exact dispatchMacroDo_sany
  case macroLocalGlobal l => exact dispatchMacroLocalGlobal_sany
  case macroNameExpr f e => exact dispatchMacroNameExpr_sany
  case macroSemiTerminatedTextExpr => exact dispatchMacroSemiTermTextExpr_sany
  case macroStatOptionsTextExpr => exact dispatchMacroStatOptsTextExpr_sany
  all_goals sauto [lexMacroDefIdentifier_fp hF]

theorem finalizeMode_sany : SAny (finalizeMode cfg m) := by
  have hF := Ordinary.keepsFresh (sep := cfg.macroSep)
  unfold finalizeMode
  sauto [lexExpectedToken_fp hF rfl, handleUnterminatedStrExpr_fp hF, rparens_fp hF]

theorem lexToken_sany : SAny (lexToken cfg c) := by
  have hF := Ordinary.keepsFresh (sep := cfg.macroSep)
  unfold lexToken
  sauto [lexCStyleComment_fp hF, lexWs_fp hF, dispatchModeDefault_sany, lexExpectedToken_fp hF rfl, dispatchModeStrExpr_sany,
    dispatchMacroMode_sany]

theorem finalizeLoop_sany : ∀ (f : Nat), SAny (finalizeLoop cfg f) := by
  intro f
  induction f with
  | zero => unfold finalizeLoop; sauto []
  | succ f ih =>
    unfold finalizeLoop
    refine SAny.bind (SAny.op _ fun _ => True.intro) (fun o => ?_)
    split
    · exact SAny.pure _
    · exact SAny.bind finalizeMode_sany (fun _ => ih)

theorem finalizeLexing_sany : SAny (finalizeLexing cfg) := by
  unfold finalizeLexing; sauto [finalizeLoop_sany]

theorem mainLoop_sany : ∀ (f n : Nat) (last : Nat × List Mode), SAny (mainLoop cfg f n last) := by
  intro f
  induction f with
  | zero => intros; unfold mainLoop; sauto []
  | succ f ih => intros; unfold mainLoop; sauto [ih, lexToken_sany]

end SasLexer
