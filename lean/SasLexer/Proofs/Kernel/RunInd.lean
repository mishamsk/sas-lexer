import SasLexer.Prog
/-!
# Induction over runs

`run_inv`: what every primitive preserves, every program preserves.  `run_sound`: the same induction for a discipline —
a predicate `W` on programs and abstract states that, with a relation `Inv` between abstract and concrete state, lets a
run be followed step by step.
-/
namespace SasLexer

/-- a run stops at a panic, so the disciplines ask nothing of what follows one: the case split their rules start with -/
theorem Op.panic_cases (o : Op) : (∃ m, o = .panic m) ∨ ∀ m, o ≠ .panic m := by
  cases o <;> first | exact .inr fun _ h => Op.noConfusion h | exact .inl ⟨_, rfl⟩

theorem run_op (cfg : Cfg) {α : Type} (o : Op) (k : Resp o → Prog α) (L : Lexer) :
    Prog.run cfg (Prog.op o k) L =
      match (step cfg o L).2.panicked with
      | some _ => (none, (step cfg o L).2)
      | none => Prog.run cfg (k (step cfg o L).1) (step cfg o L).2 := by
  rw [Prog.run]
  generalize step cfg o L = r
  obtain ⟨resp, L'⟩ := r
  rfl

theorem run_some_panicked (cfg : Cfg) {α : Type} (p : Prog α) :
    ∀ (L : Lexer) (a : α), L.panicked = none → (Prog.run cfg p L).1 = some a → (Prog.run cfg p L).2.panicked = none := by
  induction p with
  | ret a => intro L b h _; exact h
  | op o k ih =>
    intro L a h hr
    rw [run_op] at hr ⊢
    cases hp : (step cfg o L).2.panicked with
    | some m => simp [hp] at hr
    | none =>
      simp only [hp] at hr ⊢
      exact ih _ _ a hp hr

theorem run_none_panicked (cfg : Cfg) {α : Type} (p : Prog α) :
    ∀ (L : Lexer), (Prog.run cfg p L).1 = none → (Prog.run cfg p L).2.panicked ≠ none := by
  induction p with
  | ret a => intro L h; simp [Prog.run] at h
  | op o k ih =>
    intro L hr
    rw [run_op] at hr ⊢
    cases hp : (step cfg o L).2.panicked with
    | some m => simp [hp]
    | none =>
      simp only [hp] at hr ⊢
      exact ih _ _ hr

theorem run_bind (cfg : Cfg) {α β : Type} (p : Prog α) (f : α → Prog β) :
    ∀ L, Prog.run cfg (p >>= f) L =
      match Prog.run cfg p L with
      | (some a, L') => Prog.run cfg (f a) L'
      | (none, L') => (none, L') := by
  induction p with
  | ret a => intro L; rfl
  | op o k ih =>
    intro L
    show Prog.run cfg (Prog.op o fun r => k r >>= f) L = _
    rw [run_op, run_op]
    cases hp : (step cfg o L).2.panicked with
    | some m => rfl
    | none => exact ih _ _

/-- a sequence that returns: its first part returned, and the second ran from where the first ended -/
theorem run_bind_some {cfg : Cfg} {α β : Type} {p : Prog α} {f : α → Prog β} {L : Lexer} {b : β}
    (h : (Prog.run cfg (p >>= f) L).1 = some b) :
    ∃ a, (Prog.run cfg p L).1 = some a ∧ Prog.run cfg (p >>= f) L = Prog.run cfg (f a) (Prog.run cfg p L).2 := by
  rw [run_bind] at h ⊢
  generalize Prog.run cfg p L = R at h ⊢
  obtain ⟨_ | a, L'⟩ := R
  · simp at h
  · exact ⟨a, rfl, rfl⟩

/-- a single primitive that returns has not panicked -/
theorem run_perform_some {cfg : Cfg} {o : Op} {L : Lexer} {r : Resp o} (h : (Prog.run cfg (Prog.perform o) L).1 = some r) :
    Prog.run cfg (Prog.perform o) L = (some (step cfg o L).1, (step cfg o L).2) ∧ (step cfg o L).2.panicked = none := by
  rw [Prog.perform, run_op] at h ⊢
  split at h
  · simp at h
  · rename_i hp; rw [hp]; exact ⟨rfl, rfl⟩

/-- a run that ends without a panic has returned -/
theorem run_isSome (cfg : Cfg) {α : Type} (p : Prog α) (L : Lexer) (h : (Prog.run cfg p L).2.panicked = none) :
    (Prog.run cfg p L).1.isSome = true := by
  cases hr : (Prog.run cfg p L).1 with
  | none => exact absurd h (run_none_panicked cfg p L hr)
  | some a => rfl

/-- the state a run stops in at a panic satisfies the invariant too -/
theorem run_inv (cfg : Cfg) {I : Lexer → Prop} (hstep : ∀ o L, I L → I (step cfg o L).2) {α : Type} (p : Prog α)
    (L : Lexer) (h : I L) : I (Prog.run cfg p L).2 := by
  induction p generalizing L with
  | ret a => exact h
  | op o k ih =>
    rw [run_op]
    split
    · exact hstep o L h
    · exact ih _ _ (hstep o L h)

/-- `J` is what is known of the end state even if the run stops at a panic; `Inv` is re-established, for some abstract
state, by every step that does not panic -/
theorem run_sound (cfg : Cfg) {σ α : Type} {Inv : σ → Lexer → Prop} {J : Lexer → Prop} {W : Prog α → σ → Prop}
    {Q : α → σ → Prop} (hJ : ∀ s L, Inv s L → J L) (hret : ∀ a s, W (.ret a) s → Q a s)
    (hop : ∀ o k s L, W (.op o k) s → Inv s L → J (step cfg o L).2 ∧
      ((step cfg o L).2.panicked = none → ∃ s', Inv s' (step cfg o L).2 ∧ W (k (step cfg o L).1) s')) :
    ∀ (p : Prog α) (s : σ) (L : Lexer), W p s → Inv s L →
      J (Prog.run cfg p L).2 ∧ ∀ a, (Prog.run cfg p L).1 = some a → ∃ s', Q a s' ∧ Inv s' (Prog.run cfg p L).2 := by
  intro p
  induction p with
  | ret a => exact fun s L h hi => ⟨hJ s L hi, fun b hb => ⟨s, Option.some.inj hb ▸ hret a s h, hi⟩⟩
  | op o k ih =>
    intro s L h hi
    obtain ⟨hj, hs⟩ := hop o k s L h hi
    rw [run_op]
    split
    · exact ⟨hj, fun a ha => nomatch ha⟩
    · obtain ⟨s', hi', hw⟩ := hs ‹_›
      exact ih _ s' _ hw hi'

end SasLexer
