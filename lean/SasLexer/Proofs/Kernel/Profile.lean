import SasLexer.Proofs.Kernel.Fields
/-!
# Debug assertions are pure observers (kernel part of C19a)

`eraseP L` forgets the ghost field `panicked`.  Every primitive step gives the same response
and the same state up to `panicked`, whatever `cfg.debug` is and whatever `panicked` was.
Hence a program run in the release configuration computes exactly what the debug run
computes, as long as the debug run does not stop at an assertion.
-/
namespace SasLexer

def eraseP (L : Lexer) : Lexer := { L with panicked := none }

@[simp] theorem eraseP_src (L : Lexer) : (eraseP L).src = L.src := rfl
@[simp] theorem eraseP_srcLen (L : Lexer) : (eraseP L).srcLen = L.srcLen := rfl
@[simp] theorem eraseP_linesR (L : Lexer) : (eraseP L).linesR = L.linesR := rfl
@[simp] theorem eraseP_toksR (L : Lexer) : (eraseP L).toksR = L.toksR := rfl
@[simp] theorem eraseP_litsR (L : Lexer) : (eraseP L).litsR = L.litsR := rfl
@[simp] theorem eraseP_cur (L : Lexer) : (eraseP L).cur = L.cur := rfl
@[simp] theorem eraseP_tok (L : Lexer) : (eraseP L).tok = L.tok := rfl
@[simp] theorem eraseP_modesR (L : Lexer) : (eraseP L).modesR = L.modesR := rfl
@[simp] theorem eraseP_errsR (L : Lexer) : (eraseP L).errsR = L.errsR := rfl
@[simp] theorem eraseP_cp (L : Lexer) : (eraseP L).cp = L.cp := rfl
@[simp] theorem eraseP_nesting (L : Lexer) : (eraseP L).nesting = L.nesting := rfl
@[simp] theorem eraseP_pendingR (L : Lexer) : (eraseP L).pendingR = L.pendingR := rfl
@[simp] theorem eraseP_mark (L : Lexer) : (eraseP L).mark = L.mark := rfl
@[simp] theorem eraseP_lit (L : Lexer) : (eraseP L).lit = L.lit := rfl
@[simp] theorem eraseP_payReg (L : Lexer) : (eraseP L).payReg = L.payReg := rfl
@[simp] theorem eraseP_errReg (L : Lexer) : (eraseP L).errReg = L.errReg := rfl
@[simp] theorem eraseP_curByte (L : Lexer) : (eraseP L).curByte = L.curByte := rfl
@[simp] theorem eraseP_curChar (L : Lexer) : (eraseP L).curChar = L.curChar := rfl
@[simp] theorem eraseP_litsLen (L : Lexer) : (eraseP L).litsLen = L.litsLen := rfl
@[simp] theorem eraseP_idem (L : Lexer) : eraseP (eraseP L) = eraseP L := rfl

/-- two states that differ in the ghost field only -/
theorem eraseP_eq {L1 L2 : Lexer} (h : eraseP L1 = eraseP L2) : ∃ q, L2 = { L1 with panicked := q } := by
  cases L1; cases L2; cases h; exact ⟨_, rfl⟩

/-- a state built from a response and an erased state: that the builder `G` does not read `panicked` is checked when
the goal is unified with `G r.1 (eraseP r.2)` (e.g. `G ab Y := { Y with payReg := .str Y.lit.start ab.2 }` for `litResolve`) -/
theorem eraseP_congr {α} {r1 r2 : α × Lexer} (h : r1.1 = r2.1 ∧ eraseP r1.2 = eraseP r2.2) (G : α → Lexer → Lexer) :
    G r1.1 (eraseP r1.2) = G r2.1 (eraseP r2.2) := by
  rw [h.1, h.2]

variable (c1 c2 : Cfg) (L : Lexer)

/-! One lemma per method that branches, for a state and the same state with another ghost field.  Any two states with
the same erasure are such a pair (`eraseP_eq`), and so are the states a primitive passes to a method after an assertion
of its own, by unfolding: the lemmas compose without a rewrite. -/
section methods
variable (q : Option String)

theorem pendingTextFrom_eraseP (a b k) :
    (L.pendingTextFrom a b k).1 = ({ L with panicked := q }.pendingTextFrom a b k).1 ∧
    eraseP (L.pendingTextFrom a b k).2 = eraseP ({ L with panicked := q }.pendingTextFrom a b k).2 := by
  unfold Lexer.pendingTextFrom; dsimp only; split <;> exact ⟨rfl, rfl⟩

theorem lastLineOrAdd_eraseP :
    (L.lastLineOrAdd c1).1 = ({ L with panicked := q }.lastLineOrAdd c2).1 ∧
    eraseP (L.lastLineOrAdd c1).2 = eraseP ({ L with panicked := q }.lastLineOrAdd c2).2 := by
  unfold Lexer.lastLineOrAdd; dsimp only; split <;> exact ⟨rfl, rfl⟩

theorem startToken_eraseP : eraseP (L.startToken c1) = eraseP ({ L with panicked := q }.startToken c2) :=
  eraseP_congr (lastLineOrAdd_eraseP c1 c2 L q) fun ln Y => { Y with tok := ⟨L.curByte, L.curChar, ln⟩ }

theorem markIfNone_eraseP : eraseP (L.markIfNone c1) = eraseP ({ L with panicked := q }.markIfNone c2) := by
  unfold Lexer.markIfNone; dsimp only; split
  · rfl
  · exact eraseP_congr (lastLineOrAdd_eraseP c1 c2 L q) fun ln Y => { Y with mark := some ⟨L.curByte, L.curChar, ln⟩ }

theorem emitTokenAtMark_eraseP (ch ty p) :
    eraseP (L.emitTokenAtMark c1 ch ty p) = eraseP ({ L with panicked := q }.emitTokenAtMark c2 ch ty p) := by
  unfold Lexer.emitTokenAtMark; dsimp only; split <;> rfl

theorem updateLastToken_eraseP (ch ty p) :
    eraseP (L.updateLastToken c1 ch ty p) = eraseP ({ L with panicked := q }.updateLastToken c2 ch ty p) := by
  unfold Lexer.updateLastToken; dsimp only; split <;> rfl

theorem popMode_eraseP : eraseP L.popMode = eraseP { L with panicked := q }.popMode := by
  unfold Lexer.popMode; dsimp only; split <;> rfl

theorem mode_eraseP :
    L.mode.1 = { L with panicked := q }.mode.1 ∧ eraseP L.mode.2 = eraseP { L with panicked := q }.mode.2 := by
  unfold Lexer.mode; dsimp only; split <;> exact ⟨rfl, rfl⟩

theorem rollback_eraseP : eraseP L.rollback = eraseP { L with panicked := q }.rollback := by
  unfold Lexer.rollback; dsimp only; split <;> rfl

theorem popPendingStat_eraseP : eraseP L.popPendingStat = eraseP { L with panicked := q }.popPendingStat := by
  unfold Lexer.popPendingStat; dsimp only; split <;> rfl

theorem pendingStat_eraseP :
    L.pendingStat.1 = { L with panicked := q }.pendingStat.1 ∧
    eraseP L.pendingStat.2 = eraseP { L with panicked := q }.pendingStat.2 := by
  unfold Lexer.pendingStat; dsimp only; split <;> exact ⟨rfl, rfl⟩

theorem setPendingStat_eraseP (v) :
    eraseP (L.setPendingStat v) = eraseP ({ L with panicked := q }.setPendingStat v) := by
  unfold Lexer.setPendingStat; dsimp only; split <;> rfl

theorem addStringLiteralFromSrc_eraseP (a b) :
    (L.addStringLiteralFromSrc c1 a b).1 = ({ L with panicked := q }.addStringLiteralFromSrc c2 a b).1 ∧
    eraseP (L.addStringLiteralFromSrc c1 a b).2 = eraseP ({ L with panicked := q }.addStringLiteralFromSrc c2 a b).2 := by
  unfold Lexer.addStringLiteralFromSrc
  dsimp only [Lexer.dassert, Lexer.curByte]
  split <;> exact ⟨rfl, rfl⟩

end methods

theorem lastLineOrAdd_profile :
    (L.lastLineOrAdd c1).1 = ((eraseP L).lastLineOrAdd c2).1 ∧
    eraseP (L.lastLineOrAdd c1).2 = eraseP ((eraseP L).lastLineOrAdd c2).2 :=
  lastLineOrAdd_eraseP c1 c2 L none

/-- the kernel fact behind C19a: a primitive step does not depend on `cfg.debug`, `cfg.nightly`
or on whether an assertion has fired before, except in the ghost field `panicked` -/
theorem step_profile (hf : c1.macroSep = c2.macroSep) (o : Op) {L1 L2 : Lexer} (h : eraseP L1 = eraseP L2) :
    (step c1 o L1).1 = (step c2 o L2).1 ∧ eraseP (step c1 o L1).2 = eraseP (step c2 o L2).2 := by
  obtain ⟨q, rfl⟩ := eraseP_eq h
  cases o
  case pendingText | pendingTextToMark | pendingTextWithPrev => exact pendingTextFrom_eraseP L1 q _ _ _
  case startToken => exact ⟨rfl, startToken_eraseP c1 c2 L1 q⟩
  case markIfNone => exact ⟨rfl, markIfNone_eraseP c1 c2 L1 q⟩
  case emitTokenAtMark ch ty p => exact ⟨rfl, emitTokenAtMark_eraseP c1 c2 L1 q ch ty _⟩
  case updateLastToken ch ty p => exact ⟨rfl, updateLastToken_eraseP c1 c2 L1 q ch ty _⟩
  case popMode => exact ⟨rfl, popMode_eraseP L1 q⟩
  case mode => exact mode_eraseP L1 q
  case rollback => exact ⟨rfl, rollback_eraseP L1 q⟩
  case popPending => exact ⟨rfl, popPendingStat_eraseP L1 q⟩
  case pendingStat => exact pendingStat_eraseP L1 q
  case setPending b => exact ⟨rfl, setPendingStat_eraseP L1 q b⟩
  case retypeLastDefault | emitPrepared | popModeRaw | modifyTop | modifyAt | insertModeAt =>
    dsimp only [step]; split <;> exact ⟨rfl, rfl⟩
  case insertSepBeforeLastDefault =>
    dsimp only [step]; rw [hf]; split
    · split <;> exact ⟨rfl, rfl⟩
    · exact ⟨rfl, rfl⟩
  case litCut =>
    exact ⟨rfl, eraseP_congr (addStringLiteralFromSrc_eraseP c1 c2 L1 q L1.lit.lastEnd none) fun ab Y =>
      { Y with lit := { Y.lit with start := min Y.lit.start ab.1, stop := ab.2, seen := true } }⟩
  case litResolve back =>
    refine ⟨rfl, ?_⟩
    -- exposes the `if` behind the `let` of `step`, so that `split` finds it
    show eraseP (if (!L1.lit.seen) = true then _ else _ : Unit × Lexer).2 =
      eraseP (if (!L1.lit.seen) = true then _ else _ : Unit × Lexer).2
    split
    · rfl
    · exact eraseP_congr (addStringLiteralFromSrc_eraseP c1 c2 (L1.dassert c1 _ _) _ _ _) fun ab Y =>
        { Y with payReg := .str Y.lit.start ab.2 }
  case emitEofAtCursor =>
    exact ⟨rfl, eraseP_congr (lastLineOrAdd_eraseP c1 c2 L1 q) fun ln Y =>
      { Y with toksR := ⟨.DEFAULT, .EOF, Y.curByte, Y.curChar, ln, .none⟩ :: Y.toksR }⟩
  all_goals exact ⟨rfl, rfl⟩

/-- the only panics that do not come from debug assertions -/
def hardPanic : Op → Lexer → Bool
  | .panic _, _ => true
  | .insertModeAt i _, L => !(decide (i ≤ L.modesR.length))
  | _, _ => false

@[simp] theorem chk_false (p : Option String) (c : Bool) (m : String) : Lexer.chk false p c m = p := by
  unfold Lexer.chk; cases p <;> simp

theorem tokChecks_release {c : Cfg} (hd : c.debug = false) (L : Lexer) (t : TokInfo) :
    Lexer.tokChecks c L t = L.panicked := by
  unfold Lexer.tokChecks; simp only [hd, chk_false]; split <;> rfl

section release
variable {c : Cfg} (hd : c.debug = false) (L : Lexer)
include hd

theorem lastLineOrAdd_release : (L.lastLineOrAdd c).2.panicked = L.panicked := by
  unfold Lexer.lastLineOrAdd; split
  · simp only [fld, hd, chk_false]
  · rfl
theorem markIfNone_release : (L.markIfNone c).panicked = L.panicked := by
  unfold Lexer.markIfNone; split
  · rfl
  · exact lastLineOrAdd_release hd L
theorem emitTokenAtMark_release (ch ty p) : (L.emitTokenAtMark c ch ty p).panicked = L.panicked := by
  unfold Lexer.emitTokenAtMark; split
  · exact tokChecks_release hd ..
  · rfl
theorem updateLastToken_release (ch ty p) : (L.updateLastToken c ch ty p).panicked = L.panicked := by
  unfold Lexer.updateLastToken; split
  · rfl
  · exact tokChecks_release hd ..
theorem addStringLiteralFromSrc_release (a b) : (L.addStringLiteralFromSrc c a b).2.panicked = L.panicked := by
  unfold Lexer.addStringLiteralFromSrc; dsimp only; split <;> simp only [fld, hd, chk_false]

end release

/-- in a release configuration a primitive step panics only for the two unconditional reasons -/
theorem step_release_panicked {c : Cfg} (hd : c.debug = false) (o : Op) (L : Lexer) (hL : L.panicked = none) :
    (step c o L).2.panicked = none ∨ hardPanic o L = true := by
  cases o
  case panic => exact .inr rfl
  case insertModeAt i m =>
    simp only [step, hardPanic, Lexer.insertNthFromBottom]
    split
    · exact .inl hL
    · exact .inr (by simp_all)
  case addLine | advanceBy | startToken | markIfNone | emitToken | emitTokenAtMark | updateLastToken | checkpoint | litCut
      | emitEofAtCursor | dassert =>
    refine .inl (Eq.trans ?_ hL)
    simp only [step, fld, lastLineOrAdd_release hd, markIfNone_release hd, emitTokenAtMark_release hd,
      updateLastToken_release hd, addStringLiteralFromSrc_release hd, tokChecks_release hd, hd, chk_false]
  case litResolve =>
    refine .inl (Eq.trans ?_ hL)
    simp only [step]; split <;> simp only [fld, addStringLiteralFromSrc_release hd, hd, chk_false]
  all_goals exact .inl ((step_frame.panicked rfl).trans hL)

/-- a step that did not panic (in any configuration) was not one of the unconditional panics -/
theorem step_ok_not_hard (c : Cfg) (o : Op) (L : Lexer) (h : (step c o L).2.panicked = none) :
    hardPanic o L = false := by
  cases o
  case panic m => exact absurd h (panic_panicked c m L)
  case insertModeAt i m =>
    by_cases hi : i ≤ L.modesR.length
    · simp [hardPanic, hi]
    · simp only [step, Lexer.insertNthFromBottom, hi, if_false] at h
      exact absurd h (panic_panicked c _ L)
  all_goals rfl

theorem hardPanic_eraseP (o : Op) {L1 L2 : Lexer} (h : eraseP L1 = eraseP L2) : hardPanic o L1 = hardPanic o L2 := by
  obtain ⟨q, rfl⟩ := eraseP_eq h
  cases o <;> rfl

/-- **Kernel theorem (C19a).**  For every program: if the run in configuration `c1` (e.g. the
debug build) does not stop at an assertion, then the run in a release configuration `c2` with the
same `macro_sep` feature returns the same result and the same state up to the ghost field, and
does not panic either. -/
theorem run_profile (hf : c1.macroSep = c2.macroSep) (hrel : c2.debug = false) {α} (p : Prog α) :
    ∀ (L1 L2 : Lexer), eraseP L1 = eraseP L2 → L2.panicked = none →
      (Prog.run c1 p L1).2.panicked = none →
      (Prog.run c1 p L1).1 = (Prog.run c2 p L2).1 ∧
      eraseP (Prog.run c1 p L1).2 = eraseP (Prog.run c2 p L2).2 ∧
      (Prog.run c2 p L2).2.panicked = none := by
  induction p with
  | ret a => intro L1 L2 h h2 _; exact ⟨rfl, h, h2⟩
  | op o k ih =>
    intro L1 L2 h h2 hn
    obtain ⟨hresp, hst⟩ := step_profile c1 c2 hf o h
    unfold Prog.run at hn ⊢
    cases hp1 : (step c1 o L1).2.panicked with
    | some m => simp only [hp1] at hn; exact absurd hn (by simp)
    | none =>
      simp only [hp1] at hn ⊢
      have hh : hardPanic o L2 = false := hardPanic_eraseP o h ▸ step_ok_not_hard c1 o L1 hp1
      have hp2 : (step c2 o L2).2.panicked = none :=
        (step_release_panicked hrel o L2 h2).resolve_right (by rw [hh]; decide)
      simp only [hp2]
      have := ih (step c1 o L1).1 (step c1 o L1).2 (step c2 o L2).2 hst hp2 hn
      rw [hresp] at this ⊢
      exact this

end SasLexer
