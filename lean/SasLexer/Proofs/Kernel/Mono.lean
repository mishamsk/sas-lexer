import SasLexer.Proofs.Kernel.Run
/-!
# Kernel invariant `KMono`: token byte offsets never decrease (debug builds, unless an
assertion fired)

In a debug build `add_token` asserts `byte_offset >= last.byte_offset`; the model records a
failed assertion in `panicked`.  `KMono L` says: if nothing has panicked, the (newest-first)
token list is sorted.  It holds for **every** program in the debug configuration.  For the
release configuration it follows for the same program from `run_profile` (C19) when the
debug run does not panic.
-/
namespace SasLexer
open Lexer

/-- newest-first list is non-increasing in `byte` -/
def SortedR (ts : List TokInfo) : Prop := ts.Pairwise (fun a b => b.byte ≤ a.byte)

theorem SortedR.cons {t : TokInfo} {ts : List TokInfo} (h : SortedR ts)
    (ht : ∀ l, ts.head? = some l → l.byte ≤ t.byte) : SortedR (t :: ts) := by
  refine List.pairwise_cons.2 ⟨fun x hx => ?_, h⟩
  cases ts with
  | nil => cases hx
  | cons l r =>
    rcases List.mem_cons.1 hx with rfl | hx
    · exact ht _ rfl
    · exact Nat.le_trans ((List.pairwise_cons.1 h).1 x hx) (ht l rfl)

theorem SortedR.truncR {ts : List TokInfo} (h : SortedR ts) (n : Nat) : SortedR (Lexer.truncR ts n) :=
  List.Pairwise.sublist (List.drop_sublist _ _) h

theorem SortedR.of_bytes {a b : List TokInfo} (h : a.map (·.byte) = b.map (·.byte)) (hb : SortedR b) :
    SortedR a := by
  have hb' : (b.map (·.byte)).Pairwise (fun x y => y ≤ x) := List.pairwise_map.2 hb
  exact List.pairwise_map.1 (h ▸ hb')

structure KMono (L : Lexer) : Prop where
  sorted : L.panicked = none → SortedR L.toksR

namespace KMono
variable {L : Lexer} {cfg : Cfg}

/-- `KMono` reads the token list, and the ghost field only to see whether it is still clear -/
theorem ofToks {L' : Lexer} (h : KMono L) (hp : L'.panicked = none → L.panicked = none)
    (ht : L'.toksR = L.toksR) : KMono L' := ⟨fun hn => ht ▸ h.sorted (hp hn)⟩

theorem tokChecks_none (hd : cfg.debug = true) {t : TokInfo} (h : tokChecks cfg L t = none) :
    L.panicked = none ∧ ∀ l, L.toksR.head? = some l → l.byte ≤ t.byte := by
  refine ⟨tokChecks_mono h, fun l hl => ?_⟩
  obtain ⟨r, hts⟩ := List.head?_eq_some_iff.1 hl
  unfold tokChecks at h
  dsimp only at h
  -- the second of the four assertions, whichever the last one is
  split at h <;> simpa [hts] using (chk_none (chk_some_mono (chk_some_mono h))).2 hd

theorem bufAddToken (hd : cfg.debug = true) (h : KMono L) (t : TokInfo) : KMono (L.bufAddToken cfg t) := by
  constructor
  intro hn
  have := tokChecks_none hd (t := t) hn
  exact (h.sorted this.1).cons this.2

theorem emitError (h : KMono L) (k : ErrorKind) : KMono (L.emitError k) := h.ofToks id rfl
theorem pushMode (h : KMono L) (m : Mode) : KMono (L.pushMode m) := h.ofToks id rfl
theorem popMode (h : KMono L) : KMono L.popMode := h.ofToks (popMode_panicked L ▸ id) (popMode_toksR L)

theorem startToken (h : KMono L) : KMono (L.startToken cfg) :=
  h.ofToks lastLineOrAdd_panicked_mono (startToken_toksR cfg L)

theorem updateLastToken (hd : cfg.debug = true) (h : KMono L) (ch ty p) :
    KMono (L.updateLastToken cfg ch ty p) := by
  unfold Lexer.updateLastToken; split
  · rename_i t ts hts
    exact ⟨fun hn => SortedR.of_bytes (by simp [hts]) (h.sorted hn)⟩
  · exact (h.emitError _).bufAddToken hd _

theorem rollback (h : KMono L) : KMono L.rollback := by
  unfold Lexer.rollback; split
  · exact ⟨fun hn => (h.sorted hn).truncR _⟩
  · exact h.emitError _

end KMono

theorem retype_bytes {e n : TokenType} {ts ts' : List TokInfo} (h : retypeLastDefaultAux e n ts = some ts') :
    ts'.map (·.byte) = ts.map (·.byte) := by
  obtain ⟨a, t, b, rfl, rfl, -⟩ := retype_eq h
  simp

theorem mem_of_map_byte {a b : List TokInfo} (h : a.map (·.byte) = b.map (·.byte)) :
    ∀ x ∈ a, ∃ y ∈ b, x.byte = y.byte := by
  intro x hx
  obtain ⟨y, hy, hb⟩ := List.mem_map.1 (h ▸ List.mem_map_of_mem (f := TokInfo.byte) hx)
  exact ⟨y, hy, hb.symm⟩

theorem insertSep_sorted {ts ts' : List TokInfo} (h : insertSepAux ts = some ts') (hs : SortedR ts) : SortedR ts' := by
  obtain ⟨a, t, b, rfl, rfl⟩ := insertSep_eq h
  unfold SortedR at *
  simp only [List.pairwise_append, List.pairwise_cons, List.mem_cons, forall_eq_or_imp] at hs ⊢
  exact ⟨hs.1, ⟨⟨Nat.le_refl _, hs.2.1.1⟩, hs.2.1⟩, fun x hx => ⟨(hs.2.2 x hx).1, (hs.2.2 x hx).1, (hs.2.2 x hx).2⟩⟩

theorem step_KMono (cfg : Cfg) (hd : cfg.debug = true) (o : Op) (L : Lexer) (h : KMono L) :
    KMono (step cfg o L).2 := by
  cases o
  case emitToken => exact h.bufAddToken hd _
  case emitTokenAtMark => exact step_emitTokenAtMark h fun _ _ => h.bufAddToken hd _
  case updateLastToken => exact h.updateLastToken hd _ _ _
  case retypeLastDefault e n =>
    exact step_retype h fun _ hts => ⟨fun hn => SortedR.of_bytes (retype_bytes hts) (h.sorted hn)⟩
  case insertSepBeforeLastDefault => exact step_insertSep h fun _ hts => ⟨fun hn => insertSep_sorted hts (h.sorted hn)⟩
  case rollback => exact h.rollback
  case emitEofAtCursor => exact (h.ofToks lastLineOrAdd_panicked_mono (lastLineOrAdd_toksR cfg L)).bufAddToken hd _
  all_goals exact h.ofToks (step_panicked_mono cfg _ L) (step_frame.toksR rfl)

theorem run_KMono (cfg : Cfg) (hd : cfg.debug = true) {α} (p : Prog α) (L : Lexer) (h : KMono L) :
    KMono (Prog.run cfg p L).2 :=
  run_inv cfg (step_KMono cfg hd) p L h

theorem new_KMono (cfg : Cfg) (s : List Char) : KMono (Lexer.new cfg s) :=
  ⟨fun _ => by simp [SortedR]⟩

end SasLexer
