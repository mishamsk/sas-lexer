import SasLexer.Proofs.Kernel.ErrAnchor
/-!
# Kernel invariant `KOrd`: errors are listed in non-decreasing source order

`KOrd L`: the error list is sorted by byte offset, every error lies at or before the cursor, the prepared error (if
any) too, and the checkpoint remembers a prefix of the errors that lies at or before *its* cursor — so that
`rollback` (which truncates the errors and moves the cursor back) re-establishes all of it.

Every primitive preserves `KOrd`, except that `emitPrepared` appends an error prepared earlier: its offset must not
lie before an error emitted in between.  That side condition (`PrepOk`) is what the discipline of
`Proofs/Model/ErrOrd.lean` establishes for the modelled control logic.
-/
namespace SasLexer
open Lexer

/-- newest first: every older error lies at or before every newer one -/
def ErrSorted (l : List ErrInfo) : Prop := l.Pairwise fun newer older => older.byte ≤ newer.byte

structure KOrd (L : Lexer) : Prop where
  sorted : ErrSorted L.errsR
  le : ∀ e ∈ L.errsR, e.byte ≤ L.curByte
  reg : ∀ e, L.errReg = some e → e.byte ≤ L.curByte
  /-- what `rollback` restores satisfies `le`: `L.srcLen - c.cur.remBytes` is `curByte` once the cursor is `c.cur` -/
  cp : ∀ c, L.cp = some c → c.nErrs ≤ L.errsR.length ∧
        ∀ e ∈ truncR L.errsR c.nErrs, e.byte ≤ L.srcLen - c.cur.remBytes

/-- the prepared error does not lie before an error that is already listed -/
def PrepOk (L : Lexer) : Prop := ∀ e, L.errReg = some e → ∀ e' ∈ L.errsR, e'.byte ≤ e.byte

namespace KOrd
variable {L : Lexer} {cfg : Cfg}

/-- `KOrd` only reads the error list, the prepared error, the checkpoint, the cursor's remaining bytes, the source length -/
theorem mono {L' : Lexer} (h : KOrd L) (e2 : L'.errsR = L.errsR) (e3 : L'.errReg = L.errReg) (e4 : L'.cp = L.cp)
    (e5 : L'.srcLen = L.srcLen) (e6 : L.curByte ≤ L'.curByte) : KOrd L' := by
  constructor
  · rw [e2]; exact h.sorted
  · rw [e2]; intro e he; exact Nat.le_trans (h.le e he) e6
  · rw [e3]; intro e he; exact Nat.le_trans (h.reg e he) e6
  · rw [e2, e4, e5]; exact h.cp

theorem emitErrorInfo (h : KOrd L) {e : ErrInfo} (he : e.byte ≤ L.curByte) (hs : ∀ e' ∈ L.errsR, e'.byte ≤ e.byte) :
    KOrd (L.emitErrorInfo e) := by
  refine ⟨List.pairwise_cons.2 ⟨hs, h.sorted⟩, List.forall_mem_cons.2 ⟨he, h.le⟩, h.reg, fun c hc => ?_⟩
  obtain ⟨h2, h3⟩ := h.cp c hc
  refine ⟨Nat.le_succ_of_le h2, ?_⟩
  show ∀ e' ∈ truncR (e :: L.errsR) c.nErrs, _
  rw [truncR_cons_of_le _ _ h2]
  exact h3

theorem prepError_byte (L : Lexer) (k : ErrorKind) : (L.prepError k).byte = L.curByte := rfl

theorem emitError (h : KOrd L) (k : ErrorKind) : KOrd (L.emitError k) :=
  h.emitErrorInfo (Nat.le_refl _) (fun e' he' => h.le e' he')

/-- `mono`, with the error list allowed to gain an error prepared now and the cursor to move forward -/
theorem monoE {L' : Lexer} (h : KOrd L) (e2 : ErrStep L L') (e3 : L'.errReg = L.errReg) (e4 : L'.cp = L.cp)
    (e5 : L'.srcLen = L.srcLen) (e6 : L'.cur.remBytes ≤ L.cur.remBytes) : KOrd L' := by
  have e6' := curByte_mono e5 e6
  rcases e2 with e2 | ⟨k, e2⟩
  · exact h.mono e2 e3 e4 e5 e6'
  · exact (h.emitError k).mono e2 e3 e4 e5 e6'

theorem startToken (h : KOrd L) : KOrd (L.startToken cfg) :=
  h.monoE (.inl (startToken_errsR cfg L)) (startToken_errReg cfg L) (startToken_cp cfg L) (startToken_srcLen cfg L)
    (Nat.le_of_eq (congrArg _ (startToken_cur cfg L)))
theorem updateLastToken (h : KOrd L) (ch ty p) : KOrd (L.updateLastToken cfg ch ty p) :=
  h.monoE (updateLastToken_errStep cfg L ch ty p) (updateLastToken_errReg cfg L ch ty p) (updateLastToken_cp cfg L ch ty p)
    (updateLastToken_srcLen cfg L ch ty p) (Nat.le_of_eq (congrArg _ (updateLastToken_cur cfg L ch ty p)))
theorem pushMode (h : KOrd L) (m : Mode) : KOrd (L.pushMode m) := h.monoE (.inl rfl) rfl rfl rfl (Nat.le_refl _)
theorem popMode (h : KOrd L) : KOrd L.popMode :=
  h.monoE (popMode_errStep L) (popMode_errReg L) (popMode_cp L) (popMode_srcLen L) (Nat.le_of_eq (congrArg _ (popMode_cur L)))

theorem checkpoint (h : KOrd L) : KOrd (L.checkpoint cfg) := by
  refine ⟨h.sorted, h.le, h.reg, fun c hc => ?_⟩
  cases hc
  refine ⟨Nat.le_refl _, ?_⟩
  show ∀ e ∈ truncR L.errsR L.errsR.length, _
  rw [truncR_self]
  exact h.le

theorem rollback (h : KOrd L) : KOrd L.rollback := by
  unfold Lexer.rollback; split
  · rename_i c hc
    obtain ⟨h2, h3⟩ := h.cp c hc
    exact ⟨List.Pairwise.sublist (truncR_sublist _ _) h.sorted, h3, fun _ he => (nomatch he), fun _ hc => (nomatch hc)⟩
  · exact h.emitError _

end KOrd

theorem step_KOrd (cfg : Cfg) (o : Op) (L : Lexer) (h : KOrd L) (hs : o = .emitPrepared → PrepOk L) :
    KOrd (step cfg o L).2 := by
  cases o
  case prepError k =>
    refine { h with reg := fun e he => ?_ }
    cases he; exact Nat.le_refl _
  case emitPrepared =>
    simp only [step]; split
    · exact { h.emitErrorInfo (h.reg _ ‹_›) (hs rfl _ ‹_›) with reg := nofun }
    · exact h
  case checkpoint => exact h.checkpoint
  case clearCheckpoint => exact { h with cp := nofun }
  case bumpCheckpointModeLen n => exact { h with cp := step_bump h.cp fun _ => id }
  case rollback => exact h.rollback
  all_goals
    exact h.monoE (step_errStep rfl) (step_frame.errReg rfl) (step_frame.cp rfl) step_frame.srcLen (step_rem cfg _ L Op.noConfusion)

theorem new_KOrd (cfg : Cfg) (s : List Char) : KOrd (Lexer.new cfg s) :=
  { sorted := by simp [ErrSorted], le := by simp, reg := by simp, cp := by simp }

end SasLexer
