import SasLexer.Proofs.Kernel.Run
/-!
# Kernel invariant `KErr`: the token an error names as its last token exists

`KErr L`: every reported error's `last_token` index is below the current token count; the
checkpoint remembers a prefix for which this also holds, so that `rollback` (which truncates
tokens **and** errors since the `fix:` commit) re-establishes it.  Holds for every program.
Before that fix the invariant was false (errors survived a rollback that removed their token).
-/
namespace SasLexer
open Lexer

def ErrOk (n : Nat) (e : ErrInfo) : Prop := ∀ i, e.lastTok = some i → i < n

theorem ErrOk.mono {n m : Nat} {e : ErrInfo} (h : ErrOk n e) (hnm : n ≤ m) : ErrOk m e :=
  fun i hi => Nat.lt_of_lt_of_le (h i hi) hnm

structure KErr (L : Lexer) : Prop where
  errs : ∀ e ∈ L.errsR, ErrOk L.toksR.length e
  reg : ∀ e, L.errReg = some e → ErrOk L.toksR.length e
  cp : ∀ c, L.cp = some c → c.nToks ≤ L.toksR.length ∧ c.nErrs ≤ L.errsR.length ∧
        ∀ e ∈ truncR L.errsR c.nErrs, ErrOk c.nToks e

namespace KErr
variable {L : Lexer} {cfg : Cfg}

theorem prepError_ok (L : Lexer) (k : ErrorKind) : ErrOk L.toksR.length (L.prepError k) := by
  intro i hi
  unfold Lexer.prepError at hi
  dsimp only at hi
  split at hi
  · simp at hi
  · simp only [Option.some.injEq] at hi
    omega

theorem withToks (h : KErr L) {ts : List TokInfo} (hlen : L.toksR.length ≤ ts.length) {p : Option String} :
    KErr { L with toksR := ts, panicked := p } :=
  { errs := fun e he => (h.errs e he).mono hlen
    reg := fun e he => (h.reg e he).mono hlen
    cp := fun c hc => ⟨Nat.le_trans (h.cp c hc).1 hlen, (h.cp c hc).2⟩ }

theorem frame {L' : Lexer} (h : KErr L) (e1 : L'.toksR = L.toksR) (e2 : L'.errsR = L.errsR)
    (e3 : L'.errReg = L.errReg) (e4 : L'.cp = L.cp) : KErr L' := by
  constructor
  · rw [e1, e2]; exact h.errs
  · rw [e1, e3]; exact h.reg
  · rw [e1, e2, e4]; exact h.cp

theorem bufAddToken (h : KErr L) (t : TokInfo) : KErr (L.bufAddToken cfg t) :=
  h.withToks (Nat.le_succ _)

theorem emitErrorInfo (h : KErr L) {e : ErrInfo} (he : ErrOk L.toksR.length e) : KErr (L.emitErrorInfo e) := by
  refine ⟨List.forall_mem_cons.2 ⟨he, h.errs⟩, h.reg, fun c hc => ?_⟩
  obtain ⟨h1, h2, h3⟩ := h.cp c hc
  refine ⟨h1, Nat.le_succ_of_le h2, ?_⟩
  show ∀ e' ∈ truncR (e :: L.errsR) c.nErrs, _
  rw [truncR_cons_of_le _ _ h2]
  exact h3

theorem emitError (h : KErr L) (k : ErrorKind) : KErr (L.emitError k) := h.emitErrorInfo (prepError_ok L k)

/-- `frame`, with the error list allowed to gain an error prepared now -/
theorem frameE {L' : Lexer} (h : KErr L) (e1 : L'.toksR = L.toksR) (e2 : ErrStep L L') (e3 : L'.errReg = L.errReg)
    (e4 : L'.cp = L.cp) : KErr L' := by
  rcases e2 with e2 | ⟨k, e2⟩
  · exact h.frame e1 e2 e3 e4
  · exact (h.emitError k).frame e1 e2 e3 e4

theorem lastLineOrAdd (h : KErr L) : KErr (L.lastLineOrAdd cfg).2 :=
  h.frame (lastLineOrAdd_toksR cfg L) (lastLineOrAdd_errsR cfg L) (lastLineOrAdd_errReg cfg L) (lastLineOrAdd_cp cfg L)
theorem startToken (h : KErr L) : KErr (L.startToken cfg) :=
  h.frame (startToken_toksR cfg L) (startToken_errsR cfg L) (startToken_errReg cfg L) (startToken_cp cfg L)
theorem updateLastToken (h : KErr L) (ch ty p) : KErr (L.updateLastToken cfg ch ty p) := by
  unfold Lexer.updateLastToken; split
  · rename_i t ts hts
    exact h.withToks (by simp [hts])
  · exact (h.emitError _).bufAddToken _
theorem pushMode (h : KErr L) (m : Mode) : KErr (L.pushMode m) := h.frame rfl rfl rfl rfl
theorem popMode (h : KErr L) : KErr L.popMode :=
  h.frameE (popMode_toksR L) (popMode_errStep L) (popMode_errReg L) (popMode_cp L)

theorem checkpoint (h : KErr L) : KErr (L.checkpoint cfg) := by
  refine ⟨h.errs, h.reg, fun c hc => ?_⟩
  cases hc
  refine ⟨Nat.le_refl _, Nat.le_refl _, ?_⟩
  show ∀ e ∈ truncR L.errsR L.errsR.length, _
  rw [truncR_self]
  exact h.errs

theorem rollback (h : KErr L) : KErr L.rollback := by
  unfold Lexer.rollback; split
  · rename_i c hc
    obtain ⟨h1, h2, h3⟩ := h.cp c hc
    have hl : c.nToks ≤ (truncR L.toksR c.nToks).length := by rw [length_truncR]; omega
    exact ⟨fun e he => (h3 e he).mono hl, fun _ he => (nomatch he), fun _ hc => (nomatch hc)⟩
  · exact h.emitError _

end KErr

theorem step_KErr (cfg : Cfg) (o : Op) (L : Lexer) (h : KErr L) : KErr (step cfg o L).2 := by
  cases o
  case emitToken => exact h.bufAddToken _
  case emitTokenAtMark => exact step_emitTokenAtMark h fun _ _ => h.bufAddToken _
  case updateLastToken => exact h.updateLastToken _ _ _
  case retypeLastDefault e n => exact step_retype h fun _ hts => h.withToks (Nat.le_of_eq (length_retype hts).symm)
  case insertSepBeforeLastDefault =>
    exact step_insertSep h fun _ hts => h.withToks (by rw [length_insertSep hts]; omega)
  case emitEofAtCursor => exact (h.lastLineOrAdd (cfg := cfg)).bufAddToken _
  case prepError k =>
    refine { h with reg := fun e he => ?_ }
    cases he; exact KErr.prepError_ok L k
  case emitPrepared =>
    simp only [step]; split
    · exact { h.emitErrorInfo (h.reg _ ‹_›) with reg := nofun }
    · exact h
  case checkpoint => exact h.checkpoint
  case clearCheckpoint => exact { h with cp := nofun }
  case bumpCheckpointModeLen n => exact { h with cp := step_bump h.cp fun _ => id }
  case rollback => exact h.rollback
  all_goals exact h.frameE (step_frame.toksR rfl) (step_errStep rfl) (step_frame.errReg rfl) (step_frame.cp rfl)

theorem run_KErr (cfg : Cfg) {α} (p : Prog α) (L : Lexer) (h : KErr L) : KErr (Prog.run cfg p L).2 :=
  run_inv cfg (step_KErr cfg) p L h

theorem new_KErr (cfg : Cfg) (s : List Char) : KErr (Lexer.new cfg s) :=
  { errs := by simp, reg := by simp, cp := by simp }

end SasLexer
