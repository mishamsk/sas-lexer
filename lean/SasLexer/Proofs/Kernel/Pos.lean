import SasLexer.Proofs.Kernel.Fields
import SasLexer.Proofs.Kernel.New
/-!
# Kernel invariant `KPos`: every stored position is a position pair of the source

`PosPair src b c` — `(b, c)` is (byte length, char length) of a prefix of `src`.
`KPos L` says that the cursor, the pending token start, every token, line, error, the
checkpoint and the position registers hold position pairs.  It is preserved by **every**
primitive, hence by every program (`step_KPos`, `run_KPos` in `Run.lean`) — no hypothesis about the
control logic, both build profiles.  Here: the per-method lemmas, the cursor (`Cursor.advanceBy_eq`,
`Cursor.eatWhile_eq`: the two moves as `drop`), and that only `rollback` moves it back (`step_rem`).
-/
namespace SasLexer

theorem utf8Len_append (a b : List Char) : utf8Len (a ++ b) = utf8Len a + utf8Len b := by
  induction a with
  | nil => simp [utf8Len]
  | cons c cs ih => simp [utf8Len, ih, Nat.add_assoc]

theorem length_le_utf8Len (s : List Char) : s.length ≤ utf8Len s := by
  induction s with
  | nil => simp [utf8Len]
  | cons c cs ih => have := Char.utf8Size_pos c; simp [utf8Len]; omega

def PosPair (src : List Char) (b c : Nat) : Prop :=
  ∃ pre suf, src = pre ++ suf ∧ b = utf8Len pre ∧ c = pre.length

theorem PosPair.zero (src : List Char) : PosPair src 0 0 := ⟨[], src, by simp, by simp [utf8Len], rfl⟩
theorem PosPair.full (src : List Char) : PosPair src (utf8Len src) src.length :=
  ⟨src, [], by simp, rfl, rfl⟩

theorem bom_posPair (s : List Char) : PosPair s (bomLen s) (bomChars s) := by
  rcases bom_cases s with ⟨hc, hl, -⟩ | ⟨hc, hl, t, rfl⟩ <;> rw [hc, hl]
  · exact PosPair.zero _
  · exact ⟨[BOM], t, rfl, by decide, rfl⟩

/-- the cursor is at a char boundary and its two counters describe the same prefix -/
def CurOK (src : List Char) (cur : Cursor) : Prop :=
  cur.remBytes = utf8Len cur.rest ∧ ∃ pre, src = pre ++ cur.rest ∧ cur.charOff = pre.length

theorem CurOK.posPair {src cur} (h : CurOK src cur) :
    PosPair src (utf8Len src - cur.remBytes) cur.charOff := by
  obtain ⟨hr, pre, hs, hc⟩ := h
  refine ⟨pre, cur.rest, hs, ?_, hc⟩
  rw [hr]; conv => lhs; rw [hs, utf8Len_append]
  omega

theorem CurOK.new (s : List Char) : CurOK s (Cursor.new s) := ⟨rfl, [], by simp [Cursor.new], rfl⟩

theorem CurOK.advance {src cur} (h : CurOK src cur) : CurOK src cur.advance.2 := by
  obtain ⟨hr, pre, hs, hc⟩ := h
  unfold Cursor.advance
  split
  · exact ⟨hr, pre, hs, hc⟩
  · rename_i ch r hrest
    refine ⟨?_, pre ++ [ch], ?_, ?_⟩
    · simp [hr, hrest, utf8Len]
    · simp [hs, hrest]
    · simp [hc]

theorem CurOK.advanceBy {src} : ∀ (n : Nat) {cur}, CurOK src cur → CurOK src (cur.advanceBy n)
  | 0, cur, h => by simpa [Cursor.advanceBy] using h
  | n + 1, cur, h => by
    unfold Cursor.advanceBy
    split
    · exact h
    · rename_i ch r hrest
      apply CurOK.advanceBy n
      have := CurOK.advance h
      simpa [Cursor.advance, hrest] using this

theorem CurOK.rem_le {src : List Char} {cur : Cursor} (h : CurOK src cur) : cur.remBytes ≤ utf8Len src := by
  obtain ⟨hr, pre, hs, _⟩ := h
  rw [hr, hs, utf8Len_append]; omega

theorem Cursor.advanceBy_eq : ∀ (n : Nat) (c : Cursor),
    c.advanceBy n = ⟨c.rest.drop n, c.charOff + (c.rest.take n).length, c.remBytes - utf8Len (c.rest.take n)⟩
  | 0, c => by simp [Cursor.advanceBy, utf8Len]
  | n + 1, c => by
    unfold Cursor.advanceBy
    split
    · rename_i h
      obtain ⟨r, co, rb⟩ := c
      cases (h : r = [])
      simp [utf8Len]
    · rename_i ch r h
      rw [Cursor.advanceBy_eq n, h]
      simp only [List.drop_succ_cons, List.take_succ_cons, List.length_cons, utf8Len, Nat.sub_sub, Nat.add_assoc,
        Nat.add_comm 1]

theorem eatWhileAux_eq (p : Char → Bool) : ∀ (r : List Char) (co rb : Nat),
    (⟨(Cursor.eatWhileAux p r co rb).1, (Cursor.eatWhileAux p r co rb).2.1, (Cursor.eatWhileAux p r co rb).2.2⟩ : Cursor) =
      Cursor.advanceBy ⟨r, co, rb⟩ (r.takeWhile p).length
  | [], co, rb => rfl
  | ch :: r, co, rb => by
    unfold Cursor.eatWhileAux
    split
    · rename_i h
      rw [List.takeWhile_cons_of_pos h]
      exact eatWhileAux_eq p r _ _
    · rename_i h
      rw [List.takeWhile_cons_of_neg h]
      rfl

/-- `eat_while` advances over the longest prefix that satisfies `p` -/
theorem Cursor.eatWhile_eq (c : Cursor) (p : Char → Bool) : c.eatWhile p = c.advanceBy (c.rest.takeWhile p).length :=
  eatWhileAux_eq p c.rest c.charOff c.remBytes

theorem CurOK.eatWhile {src cur} (p : Char → Bool) (h : CurOK src cur) : CurOK src (cur.eatWhile p) :=
  cur.eatWhile_eq p ▸ h.advanceBy _

/-! the cursor only moves forward -/

theorem advance_rem (c : Cursor) : c.advance.2.remBytes ≤ c.remBytes := by
  unfold Cursor.advance; split
  · exact Nat.le_refl _
  · exact Nat.sub_le _ _

theorem advanceBy_rem (n : Nat) (c : Cursor) : (c.advanceBy n).remBytes ≤ c.remBytes := by
  rw [Cursor.advanceBy_eq]; exact Nat.sub_le _ _

/-- `rollback` apart, no primitive moves the cursor back -/
theorem step_rem (cfg : Cfg) (o : Op) (L : Lexer) (h : o ≠ .rollback) : (step cfg o L).2.cur.remBytes ≤ L.cur.remBytes := by
  cases o
  case rollback => exact absurd rfl h
  case advance => exact advance_rem _
  case advanceBy n => exact advanceBy_rem n _
  case eatWhile p =>
    show (L.cur.eatWhile p).remBytes ≤ _
    rw [Cursor.eatWhile_eq]
    exact advanceBy_rem _ _
  all_goals exact Nat.le_of_eq (congrArg _ (step_frame.cur rfl))

structure KPos (L : Lexer) : Prop where
  srcLen : L.srcLen = utf8Len L.src
  cur : CurOK L.src L.cur
  tok : PosPair L.src L.tok.byte L.tok.start
  toks : ∀ t ∈ L.toksR, PosPair L.src t.byte t.start
  lines : ∀ l ∈ L.linesR, PosPair L.src l.byte l.start
  errs : ∀ e ∈ L.errsR, PosPair L.src e.byte e.char
  cp : ∀ c, L.cp = some c → CurOK L.src c.cur ∧ PosPair L.src c.tok.byte c.tok.start
  mark : ∀ m, L.mark = some m → PosPair L.src m.byte m.start
  errReg : ∀ e, L.errReg = some e → PosPair L.src e.byte e.char

namespace KPos
variable {L : Lexer} {cfg : Cfg}

theorem curPos (h : KPos L) : PosPair L.src L.curByte L.curChar := by
  have := h.cur.posPair
  simpa [Lexer.curByte, Lexer.curChar, h.srcLen] using this

/-- `KPos` only reads these fields -/
theorem congr {L L' : Lexer} (h : KPos L)
    (e1 : L'.src = L.src) (e2 : L'.srcLen = L.srcLen) (e3 : L'.cur = L.cur) (e4 : L'.tok = L.tok)
    (e5 : L'.toksR = L.toksR) (e6 : L'.linesR = L.linesR) (e7 : L'.errsR = L.errsR)
    (e8 : L'.cp = L.cp) (e9 : L'.mark = L.mark) (e10 : L'.errReg = L.errReg) : KPos L' := by
  cases h
  constructor <;> simp only [e1, e2, e3, e4, e5, e6, e7, e8, e9, e10] <;> assumption

theorem dassert (h : KPos L) (c : Bool) (m : String) : KPos (L.dassert cfg c m) := { h with }

theorem withCur (h : KPos L) {cur : Cursor} (hc : CurOK L.src cur) : KPos { L with cur := cur } :=
  { h with cur := hc }

theorem bufAddLine (h : KPos L) {b c : Nat} (hp : PosPair L.src b c) : KPos (L.bufAddLine cfg b c).2 :=
  { h with lines := List.forall_mem_cons.2 ⟨hp, h.lines⟩ }

theorem bufAddToken (h : KPos L) {t : TokInfo} (hp : PosPair L.src t.byte t.start) :
    KPos (L.bufAddToken cfg t) :=
  { h with toks := List.forall_mem_cons.2 ⟨hp, h.toks⟩ }

theorem addLine (h : KPos L) : KPos (L.addLine cfg).2 := h.bufAddLine h.curPos

theorem lastLineOrAdd (h : KPos L) : KPos (L.lastLineOrAdd cfg).2 := by
  unfold Lexer.lastLineOrAdd; split
  · exact h.addLine
  · exact h

theorem startToken (h : KPos L) : KPos (L.startToken cfg) := by
  have h' := h.lastLineOrAdd (cfg := cfg)
  unfold Lexer.startToken
  refine { h' with tok := ?_ }
  simpa using h.curPos

theorem markIfNone (h : KPos L) : KPos (L.markIfNone cfg) := by
  unfold Lexer.markIfNone; split
  · exact h
  · have h' := h.lastLineOrAdd (cfg := cfg)
    refine { h' with mark := fun m hm => ?_ }
    cases hm
    simpa using h.curPos

theorem clearMark (h : KPos L) : KPos L.clearMark :=
  { h with mark := nofun }

theorem emitToken (h : KPos L) (ch ty p) : KPos (L.emitToken cfg ch ty p) :=
  h.bufAddToken h.tok

theorem emitTokenAtMark (h : KPos L) (ch ty p) : KPos (L.emitTokenAtMark cfg ch ty p) := by
  unfold Lexer.emitTokenAtMark; split
  · rename_i m hm
    exact h.bufAddToken (h.mark m hm)
  · exact h

theorem prepError_pos (h : KPos L) (k : ErrorKind) :
    PosPair L.src (L.prepError k).byte (L.prepError k).char := h.curPos

theorem emitErrorInfo (h : KPos L) {e : ErrInfo} (he : PosPair L.src e.byte e.char) :
    KPos (L.emitErrorInfo e) :=
  { h with errs := List.forall_mem_cons.2 ⟨he, h.errs⟩ }

theorem emitError (h : KPos L) (k : ErrorKind) : KPos (L.emitError k) := h.emitErrorInfo (h.prepError_pos k)

theorem updateLastToken (h : KPos L) (ch ty p) : KPos (L.updateLastToken cfg ch ty p) := by
  unfold Lexer.updateLastToken; split
  · rename_i t ts hts
    have ht : ∀ t' ∈ t :: ts, PosPair L.src t'.byte t'.start := hts ▸ h.toks
    exact { h with toks := List.forall_mem_cons.2 (List.forall_mem_cons.1 ht) }
  · exact (h.emitError _).bufAddToken h.tok

theorem pushMode (h : KPos L) (m : Mode) : KPos (L.pushMode m) := { h with }

/-- `congr`, with the error list allowed to gain an error prepared now -/
theorem congrE {L L' : Lexer} (h : KPos L)
    (e1 : L'.src = L.src) (e2 : L'.srcLen = L.srcLen) (e3 : L'.cur = L.cur) (e4 : L'.tok = L.tok)
    (e5 : L'.toksR = L.toksR) (e6 : L'.linesR = L.linesR) (e7 : ErrStep L L')
    (e8 : L'.cp = L.cp) (e9 : L'.mark = L.mark) (e10 : L'.errReg = L.errReg) : KPos L' := by
  rcases e7 with e7 | ⟨k, e7⟩
  · exact h.congr e1 e2 e3 e4 e5 e6 e7 e8 e9 e10
  · exact (h.emitError k).congr e1 e2 e3 e4 e5 e6 e7 e8 e9 e10

theorem popMode (h : KPos L) : KPos L.popMode :=
  h.congrE (popMode_src L) (popMode_srcLen L) (popMode_cur L) (popMode_tok L) (popMode_toksR L) (popMode_linesR L)
    (popMode_errStep L) (popMode_cp L) (popMode_mark L) (popMode_errReg L)

theorem checkpoint (h : KPos L) : KPos (L.checkpoint cfg) := by
  refine { h with cp := fun c hc => ?_ }
  cases hc
  exact ⟨h.cur, h.tok⟩

theorem clearCheckpoint (h : KPos L) : KPos L.clearCheckpoint :=
  { h with cp := nofun }

theorem rollback (h : KPos L) : KPos L.rollback := by
  unfold Lexer.rollback; split
  · rename_i c hc
    obtain ⟨hcur, htok⟩ := h.cp c hc
    exact { srcLen := h.srcLen, cur := hcur, tok := htok,
            toks := fun t ht => h.toks t (mem_truncR ht),
            lines := fun l hl => h.lines l (mem_truncR hl),
            errs := fun e he => h.errs e (mem_truncR he), cp := by intro c' hc'; simp at hc',
            mark := h.mark, errReg := by intro e he; simp at he }
  · exact h.emitError _

theorem addStringLiteral (h : KPos L) (s : List Char) : KPos (L.addStringLiteral s).2 := { h with }

end KPos
end SasLexer
