import SasLexer.Proofs.Kernel.Pos
import SasLexer.Proofs.Kernel.RunInd
import SasLexer.Proofs.Kernel.New
import SasLexer.Buffer
/-!
# `KPos` is preserved by every primitive step, hence by every program

Also: the initial state (`new_KPos`), the state `into_detached` returns (`intoDetached_KPos`, `intoDetached_pos`), and
that no program changes the source (`run_src`).
-/
namespace SasLexer

theorem KPos.withToks {L : Lexer} (h : KPos L) {ts : List TokInfo} {n : TokenType}
    (hts : ∀ t' ∈ ts, ∃ t ∈ L.toksR, t'.byte = t.byte ∧ t'.start = t.start ∧ t'.line = t.line ∧ (t'.ty = t.ty ∨ t'.ty = n)) :
    KPos { L with toksR := ts } := by
  refine { h with toks := ?_ }
  intro t' ht'
  obtain ⟨t, ht, hb, hs, -⟩ := hts t' ht'
  rw [hb, hs]; exact h.toks t ht

theorem step_KPos (cfg : Cfg) (o : Op) (L : Lexer) (h : KPos L) : KPos (step cfg o L).2 := by
  cases o
  case advance => exact h.withCur h.cur.advance
  case advanceBy n => exact (h.dassert _ _).withCur (h.cur.advanceBy n)
  case eatWhile p => exact h.withCur (h.cur.eatWhile p)
  case addLine => exact h.addLine
  case startToken => exact h.startToken
  case markIfNone => exact h.markIfNone
  case clearMark => exact h.clearMark
  case emitToken => exact h.emitToken _ _ _
  case emitTokenAtMark => exact h.emitTokenAtMark _ _ _
  case updateLastToken => exact h.updateLastToken _ _ _
  case retypeLastDefault e n => exact step_retype h fun _ hts => h.withToks (retype_mem hts)
  case insertSepBeforeLastDefault => exact step_insertSep h fun _ hts => h.withToks (insertSep_mem hts)
  case prepError k =>
    refine { h with errReg := fun e he => ?_ }
    cases he; exact h.prepError_pos k
  case emitPrepared =>
    simp only [step]; split
    · exact { h.emitErrorInfo (h.errReg _ ‹_›) with errReg := nofun }
    · exact h
  case checkpoint => exact h.checkpoint
  case clearCheckpoint => exact h.clearCheckpoint
  case bumpCheckpointModeLen n => exact { h with cp := step_bump h.cp fun _ => id }
  case rollback => exact h.rollback
  case emitEofAtCursor => exact (h.lastLineOrAdd (cfg := cfg)).bufAddToken (h.lastLineOrAdd (cfg := cfg)).curPos
  all_goals
    exact h.congrE step_frame.src step_frame.srcLen (step_frame.cur rfl) (step_frame.tok rfl) (step_frame.toksR rfl) (step_frame.linesR rfl)
      (step_errStep rfl) (step_frame.cp rfl) (step_frame.mark rfl) (step_frame.errReg rfl)

/-- every program preserves the positional invariant (both build profiles, any control logic) -/
theorem run_KPos (cfg : Cfg) {α} (p : Prog α) (L : Lexer) (h : KPos L) : KPos (Prog.run cfg p L).2 :=
  run_inv cfg (step_KPos cfg) p L h

theorem skipBom_ok {s : List Char} {c : Cursor} (h : CurOK s c) : CurOK s (Lexer.skipBom c) := by
  unfold Lexer.skipBom; split
  · split
    · exact h.advance
    · exact h
  · exact h

theorem new_KPos (cfg : Cfg) (s : List Char) : KPos (Lexer.new cfg s) :=
  { srcLen := rfl, cur := skipBom_ok (CurOK.new s), tok := by simpa using bom_posPair s, toks := by simp,
    lines := by simpa using bom_posPair s, errs := by simp, cp := by simp, mark := by simp, errReg := by simp }

/-- the state `into_detached` returns satisfies `KPos` too: it adds a line `(0, 0)` if there is none and an `EOF` at the
end of the source unless the last token is one -/
theorem intoDetached_KPos (cfg : Cfg) (L : Lexer) (h : KPos L) :
    KPos (L.intoDetached cfg).2 ∧ (L.intoDetached cfg).2.src = L.src := by
  unfold Lexer.intoDetached
  have h1 : KPos (if L.linesR.isEmpty then (L.bufAddLine cfg 0 0).2 else L) ∧
      (if L.linesR.isEmpty then (L.bufAddLine cfg 0 0).2 else L).src = L.src := by
    split
    · exact ⟨h.bufAddLine (PosPair.zero _), rfl⟩
    · exact ⟨h, rfl⟩
  generalize (if L.linesR.isEmpty then (L.bufAddLine cfg 0 0).2 else L) = L1 at h1
  obtain ⟨h1, hs⟩ := h1
  have hfull : PosPair L1.src L1.srcLen L1.src.length := by rw [h1.srcLen]; exact PosPair.full _
  dsimp only
  split
  · split
    · exact ⟨h1, hs⟩
    · exact ⟨{ h1 with toks := List.forall_mem_cons.2 ⟨hfull, h1.toks⟩ }, hs⟩
  · exact ⟨{ h1 with toks := List.forall_mem_singleton.2 hfull }, hs⟩

/-- `into_detached` keeps every token / line a position pair (the appended EOF sits at the
end of the source) -/
theorem intoDetached_pos (cfg : Cfg) (L : Lexer) (h : KPos L) :
    (∀ t ∈ (L.intoDetached cfg).1.toks, PosPair L.src t.byte t.start) ∧
    (∀ l ∈ (L.intoDetached cfg).1.lines, PosPair L.src l.byte l.start) := by
  obtain ⟨h2, hs⟩ := intoDetached_KPos cfg L h
  exact ⟨fun t ht => hs ▸ h2.toks t (List.mem_reverse.1 ht), fun l hl => hs ▸ h2.lines l (List.mem_reverse.1 hl)⟩

/-- no program changes the source text -/
theorem run_src (cfg : Cfg) {α} (p : Prog α) (L : Lexer) : (Prog.run cfg p L).2.src = L.src :=
  run_inv cfg (I := fun L' => L'.src = L.src) (fun _ _ h => step_frame.src.trans h) p L rfl

end SasLexer
