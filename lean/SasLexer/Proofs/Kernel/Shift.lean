import SasLexer.Proofs.Kernel.Run
/-!
# Kernel relational theorem: positions are opaque to the control logic (prefix shift)

`shiftL σ L` is the state `L` re-based on a source that has `σ.pre` in front of it: every stored
byte offset grows by `σ.db = utf8Len σ.pre`, every char offset by `σ.dc = σ.pre.length`; lines,
columns, token indices, literal-buffer indices, modes and the remaining text are unchanged.
Every primitive commutes with `shiftL` and returns the same response (`step_shift`), hence so does
every program (`run_shift`).  With `σ.pre = [BOM]` this is C17.

Two primitives need a side condition (`SideOk`): `pendingTextWithPrev` slices from one byte before the
token start (`saturating_sub(1)`), which sees into the prefix when the token starts at offset 0, and
`litResolve back` subtracts `back` from the cursor offset.  That neither is executed below its decrement
is carried as a run hypothesis (`RunOk`).

`prepError` (and with it every method that reports an error) commutes only if the line table is not empty — it reads
the newest line, or `0` if there is none: `KLn`, a kernel invariant of its own (`step_KLn`, `run_KLn`, before `run_shift`).
-/
namespace SasLexer
open Lexer

structure Shift where
  pre : List Char
  db : Nat
  dc : Nat
  hdb : db = utf8Len pre
  hdc : dc = pre.length

namespace Shift
variable (σ : Shift)

def tok (t : TokInfo) : TokInfo := { t with byte := t.byte + σ.db, start := t.start + σ.dc }
def line (l : LineInfo) : LineInfo := { byte := l.byte + σ.db, start := l.start + σ.dc }
def err (e : ErrInfo) : ErrInfo := { e with byte := e.byte + σ.db, char := e.char + σ.dc }
def pos (p : Pos3) : Pos3 := { p with byte := p.byte + σ.db, start := p.start + σ.dc }
def cur (c : Cursor) : Cursor := { c with charOff := c.charOff + σ.dc }
def cp (c : Checkpoint) : Checkpoint := { c with cur := σ.cur c.cur, tok := σ.pos c.tok }
def lit (l : LitRegs) : LitRegs := { l with lastEnd := l.lastEnd + σ.db }

end Shift

def shiftL (σ : Shift) (L : Lexer) : Lexer :=
  { L with src := σ.pre ++ L.src, srcLen := L.srcLen + σ.db,
           linesR := L.linesR.map σ.line, toksR := L.toksR.map σ.tok, cur := σ.cur L.cur,
           tok := σ.pos L.tok, errsR := L.errsR.map σ.err, cp := L.cp.map σ.cp,
           mark := L.mark.map σ.pos, lit := σ.lit L.lit, errReg := L.errReg.map σ.err }

theorem Shift.dc_le_db (σ : Shift) : σ.dc ≤ σ.db := by rw [σ.hdb, σ.hdc]; exact length_le_utf8Len _

/-! ## slicing commutes with the shift -/

theorem takeBytes_eq (s : List Char) (b : Nat) : sliceBytes? s 0 b = sliceBytes?.takeBytes? s b := by
  cases s <;> simp [sliceBytes?]

theorem sliceBytes_shift : ∀ (pre : List Char) (s : List Char) (a b : Nat),
    sliceBytes? (pre ++ s) (a + utf8Len pre) (b + utf8Len pre) = sliceBytes? s a b
  | [], s, a, b => by simp [utf8Len]
  | c :: cs, s, a, b => by
    have hp := Char.utf8Size_pos c
    have ih := sliceBytes_shift cs s a b
    simp only [List.cons_append, utf8Len]
    obtain ⟨k, hk⟩ : ∃ k, a + (c.utf8Size + utf8Len cs) = k + 1 := ⟨a + (c.utf8Size + utf8Len cs) - 1, by omega⟩
    rw [hk, sliceBytes?]
    have h1 : c.utf8Size ≤ k + 1 := by omega
    have h2 : c.utf8Size ≤ b + (c.utf8Size + utf8Len cs) := by omega
    have e1 : k + 1 - c.utf8Size = a + utf8Len cs := by omega
    have e2 : b + (c.utf8Size + utf8Len cs) - c.utf8Size = b + utf8Len cs := by omega
    simp only [h1, h2, and_self, if_true, e1, e2]
    exact ih

variable (σ : Shift) (cfg : Cfg) {L : Lexer}

theorem shiftL_curByte (h : KPos L) : (shiftL σ L).curByte = L.curByte + σ.db := by
  have := h.cur.rem_le
  rw [← h.srcLen] at this
  simp only [Lexer.curByte, shiftL, Shift.cur]
  omega

theorem shiftL_curChar : (shiftL σ L).curChar = L.curChar + σ.dc := rfl

@[simp] theorem shiftL_srcLen : (shiftL σ L).srcLen = L.srcLen + σ.db := rfl
@[simp] theorem shiftL_linesR : (shiftL σ L).linesR = L.linesR.map σ.line := rfl
@[simp] theorem shiftL_toksR : (shiftL σ L).toksR = L.toksR.map σ.tok := rfl
@[simp] theorem shiftL_cur : (shiftL σ L).cur = σ.cur L.cur := rfl
@[simp] theorem shiftL_modesR : (shiftL σ L).modesR = L.modesR := rfl
@[simp] theorem shiftL_cp : (shiftL σ L).cp = L.cp.map σ.cp := rfl
@[simp] theorem shiftL_pendingR : (shiftL σ L).pendingR = L.pendingR := rfl
@[simp] theorem shiftL_mark : (shiftL σ L).mark = L.mark.map σ.pos := rfl
@[simp] theorem shiftL_errReg : (shiftL σ L).errReg = L.errReg.map σ.err := rfl
theorem chk_shift_panicked (L : Lexer) : (shiftL σ L).panicked = L.panicked := rfl

theorem dassert_shift (c : Bool) (m : String) : (shiftL σ L).dassert cfg c m = shiftL σ (L.dassert cfg c m) := rfl

theorem resolve_shift (p : PaySpec) : p.resolve (shiftL σ L) = p.resolve L := by cases p <;> rfl

theorem shiftL_slice (a b : Nat) : sliceBytes? (shiftL σ L).src (a + σ.db) (b + σ.db) = sliceBytes? L.src a b := by
  rw [σ.hdb]; exact sliceBytes_shift _ _ _ _

@[simp] theorem Shift.tok_chan (t : TokInfo) : (σ.tok t).chan = t.chan := rfl

@[simp] theorem map_lastDefault (ts : List TokInfo) :
    lastDefault? (ts.map σ.tok) = (lastDefault? ts).map σ.tok := by
  induction ts with
  | nil => rfl
  | cons t ts ih =>
    simp only [List.map_cons, lastDefault?, ih, σ.tok_chan]
    split <;> rfl

@[simp] theorem map_secondLastDefault (ts : List TokInfo) :
    secondLastDefault? (ts.map σ.tok) = (secondLastDefault? ts).map σ.tok := by
  induction ts with
  | nil => rfl
  | cons t ts ih =>
    simp only [List.map_cons, secondLastDefault?, ih, map_lastDefault, σ.tok_chan]
    split <;> rfl

theorem map_retype (e n : TokenType) (ts : List TokInfo) :
    retypeLastDefaultAux e n (ts.map σ.tok) = (retypeLastDefaultAux e n ts).map (·.map σ.tok) := by
  induction ts with
  | nil => rfl
  | cons t ts ih =>
    simp only [List.map_cons, retypeLastDefaultAux]
    by_cases hc : t.chan = .DEFAULT
    · by_cases ht : t.ty = e <;> simp [hc, ht, Shift.tok]
    · simp only [Shift.tok, hc, if_false, ih]
      cases retypeLastDefaultAux e n ts <;> simp [Shift.tok]

theorem map_insertSep (ts : List TokInfo) :
    insertSepAux (ts.map σ.tok) = (insertSepAux ts).map (·.map σ.tok) := by
  induction ts with
  | nil => rfl
  | cons t ts ih =>
    simp only [List.map_cons, insertSepAux]
    by_cases hc : t.chan = .DEFAULT
    · simp [hc, Shift.tok]
    · simp only [Shift.tok, hc, if_false, ih]
      cases insertSepAux ts <;> simp [Shift.tok]

/-! ## primitives commute with the shift -/

theorem bufAddLine_shift (b c : Nat) :
    (shiftL σ L).bufAddLine cfg (b + σ.db) (c + σ.dc) = ((L.bufAddLine cfg b c).1, shiftL σ (L.bufAddLine cfg b c).2) := by
  simp only [Lexer.bufAddLine, shiftL, List.length_map, List.map_cons, Shift.line, Nat.add_le_add_iff_right]

theorem lineAt_shift (i : Nat) : (shiftL σ L).lineAt? i = (L.lineAt? i).map σ.line := by
  simp only [Lexer.lineAt?, shiftL_linesR, List.length_map]
  split
  · simp [List.getElem?_map]
  · rfl

theorem tokChecks_shift (h : KPos L) (t : TokInfo) (ht : PosPair L.src t.byte t.start) :
    tokChecks cfg (shiftL σ L) (σ.tok t) = tokChecks cfg L t := by
  obtain ⟨pre, suf, hs, hb, hc⟩ := ht
  have h1 : t.start ≤ L.srcLen := by
    rw [h.srcLen, hc, hs, utf8Len_append]
    have := length_le_utf8Len pre; omega
  have h2 : t.start + σ.dc ≤ L.srcLen + σ.db := by have := σ.dc_le_db; omega
  unfold tokChecks
  -- the first check compares a char offset with a byte length and holds on both sides (`h1`, `h2`); each of the others
  -- compares two offsets that are shifted alike
  simp only [lineAt_shift, chk_shift_panicked]
  have e1 : (σ.tok t).start = t.start + σ.dc := rfl
  have e2 : (σ.tok t).byte = t.byte + σ.db := rfl
  have e3 : (σ.tok t).line = t.line := rfl
  simp only [e1, e2, e3, shiftL_srcLen, shiftL_toksR, shiftL_linesR, List.length_map, decide_eq_true h1, decide_eq_true h2]
  cases L.lineAt? t.line <;> cases L.toksR <;>
    simp [Shift.tok, Shift.line]

theorem bufAddToken_shift (h : KPos L) (t : TokInfo) (ht : PosPair L.src t.byte t.start) :
    (shiftL σ L).bufAddToken cfg (σ.tok t) = shiftL σ (L.bufAddToken cfg t) := by
  have := tokChecks_shift σ cfg h t ht
  simp only [Lexer.bufAddToken, this]
  rfl

theorem curPos_shift (h : KPos L) : PosPair L.src L.curByte L.curChar := h.curPos

theorem addLine_shift (h : KPos L) :
    (shiftL σ L).addLine cfg = ((L.addLine cfg).1, shiftL σ (L.addLine cfg).2) := by
  unfold Lexer.addLine
  rw [shiftL_curByte σ h, shiftL_curChar]
  exact bufAddLine_shift σ cfg _ _

theorem lastLineOrAdd_shift (h : KPos L) :
    (shiftL σ L).lastLineOrAdd cfg = ((L.lastLineOrAdd cfg).1, shiftL σ (L.lastLineOrAdd cfg).2) := by
  unfold Lexer.lastLineOrAdd
  rw [shiftL_linesR, List.length_map]
  split
  · exact addLine_shift σ cfg h
  · rfl

theorem startToken_shift (h : KPos L) : (shiftL σ L).startToken cfg = shiftL σ (L.startToken cfg) := by
  unfold Lexer.startToken
  rw [shiftL_curByte σ h, shiftL_curChar, lastLineOrAdd_shift σ cfg h]
  rfl

theorem markIfNone_shift (h : KPos L) : (shiftL σ L).markIfNone cfg = shiftL σ (L.markIfNone cfg) := by
  simp only [Lexer.markIfNone, shiftL_mark, shiftL_curByte σ h, shiftL_curChar, lastLineOrAdd_shift σ cfg h]
  cases L.mark <;> rfl

theorem emitToken_shift (h : KPos L) (ch ty p) :
    (shiftL σ L).emitToken cfg ch ty p = shiftL σ (L.emitToken cfg ch ty p) := by
  unfold Lexer.emitToken
  exact bufAddToken_shift σ cfg h ⟨ch, ty, L.tok.byte, L.tok.start, L.tok.line, p⟩ h.tok

theorem emitTokenAtMark_shift (h : KPos L) (ch ty p) :
    (shiftL σ L).emitTokenAtMark cfg ch ty p = shiftL σ (L.emitTokenAtMark cfg ch ty p) := by
  unfold Lexer.emitTokenAtMark
  rw [shiftL_mark]
  cases hm : L.mark with
  | none => rfl
  | some m => exact bufAddToken_shift σ cfg h ⟨ch, ty, m.byte, m.start, m.line, p⟩ (h.mark m hm)

theorem prepError_shift (h : KPos L) (hl : L.linesR ≠ []) (k : ErrorKind) :
    (shiftL σ L).prepError k = σ.err (L.prepError k) := by
  unfold Lexer.prepError
  rw [shiftL_curByte σ h, shiftL_curChar]
  cases hls : L.linesR with
  | nil => exact absurd hls hl
  | cons li r =>
    simp only [shiftL, hls, List.map_cons, Shift.line, Shift.err, Lexer.lineCount, List.length_cons,
      List.length_map, Nat.add_sub_add_right]

theorem emitErrorInfo_shift (e : ErrInfo) :
    (shiftL σ L).emitErrorInfo (σ.err e) = shiftL σ (L.emitErrorInfo e) := rfl

theorem emitError_shift (h : KPos L) (hl : L.linesR ≠ []) (k : ErrorKind) :
    (shiftL σ L).emitError k = shiftL σ (L.emitError k) := by
  unfold Lexer.emitError
  rw [prepError_shift σ h hl]
  rfl

theorem pushMode_shift (m : Mode) : (shiftL σ L).pushMode m = shiftL σ (L.pushMode m) := rfl

theorem popMode_shift (h : KPos L) (hl : L.linesR ≠ []) : (shiftL σ L).popMode = shiftL σ L.popMode := by
  simp only [Lexer.popMode, shiftL_modesR, emitError_shift σ h hl]
  split <;> rfl

theorem mode_shift (h : KPos L) (hl : L.linesR ≠ []) :
    (shiftL σ L).mode = (L.mode.1, shiftL σ L.mode.2) := by
  simp only [Lexer.mode, shiftL_modesR, emitError_shift σ h hl]
  split <;> rfl

theorem updateLastToken_shift (h : KPos L) (hl : L.linesR ≠ []) (ch ty p) :
    (shiftL σ L).updateLastToken cfg ch ty p = shiftL σ (L.updateLastToken cfg ch ty p) := by
  unfold Lexer.updateLastToken
  rw [shiftL_toksR]
  cases hts : L.toksR with
  | cons t ts => simp only [List.map_cons, shiftL, hts, Shift.tok]
  | nil =>
    simp only [List.map_nil]
    rw [emitError_shift σ h hl]
    have h' := h.emitError ErrorKind.InternalErrorNoTokenToReplace
    exact bufAddToken_shift σ cfg h' ⟨ch, ty, L.tok.byte, L.tok.start, L.tok.line, p⟩ h.tok

theorem popPendingStat_shift : (shiftL σ L).popPendingStat = shiftL σ L.popPendingStat := by
  unfold Lexer.popPendingStat
  rw [shiftL_pendingR]; split <;> rfl

theorem pendingStat_shift (h : KPos L) (hl : L.linesR ≠ []) :
    (shiftL σ L).pendingStat = (L.pendingStat.1, shiftL σ L.pendingStat.2) := by
  simp only [Lexer.pendingStat, shiftL_pendingR, emitError_shift σ h hl]
  split <;> rfl

theorem setPendingStat_shift (h : KPos L) (hl : L.linesR ≠ []) (v : Bool) :
    (shiftL σ L).setPendingStat v = shiftL σ (L.setPendingStat v) := by
  simp only [Lexer.setPendingStat, shiftL_pendingR, emitError_shift σ h hl]
  split <;> rfl

theorem checkpoint_shift : (shiftL σ L).checkpoint cfg = shiftL σ (L.checkpoint cfg) := by
  unfold Lexer.checkpoint
  simp only [shiftL, Lexer.dassert, List.length_map, Option.isNone_map, Option.map_some, Shift.cp]

theorem rollback_shift (h : KPos L) (hl : L.linesR ≠ []) : (shiftL σ L).rollback = shiftL σ L.rollback := by
  unfold Lexer.rollback
  rw [shiftL_cp]
  cases hc : L.cp with
  | none =>
    simp only [Option.map_none]
    exact emitError_shift σ h hl _
  | some c =>
    simp only [Option.map_some, shiftL, Shift.cp, truncR_map, hc, Option.map_none]

theorem addStringLiteral_shift (s : List Char) :
    (shiftL σ L).addStringLiteral s = ((L.addStringLiteral s).1, shiftL σ (L.addStringLiteral s).2) := rfl

theorem addStringLiteralFromSrc_shift (h : KPos L) (hl : L.linesR ≠ []) (a : Nat) (b : Option Nat) :
    (shiftL σ L).addStringLiteralFromSrc cfg (a + σ.db) (b.map (· + σ.db)) =
      ((L.addStringLiteralFromSrc cfg a b).1, shiftL σ (L.addStringLiteralFromSrc cfg a b).2) := by
  have he : (b.map (· + σ.db)).getD (shiftL σ L).curByte = b.getD L.curByte + σ.db := by
    cases b with
    | none => exact shiftL_curByte σ h
    | some x => rfl
  simp only [Lexer.addStringLiteralFromSrc, he, Nat.add_le_add_iff_right, dassert_shift, shiftL_slice,
    emitError_shift σ (h.dassert _ _) hl]
  split <;> rfl

theorem pendingTextFrom_shift (h : KPos L) (hl : L.linesR ≠ []) (a b : Nat) (k : ErrorKind) :
    (shiftL σ L).pendingTextFrom (a + σ.db) (b + σ.db) k =
      ((L.pendingTextFrom a b k).1, shiftL σ (L.pendingTextFrom a b k).2) := by
  simp only [Lexer.pendingTextFrom, Nat.add_le_add_iff_right, shiftL_slice, emitError_shift σ h hl]
  split <;> rfl

theorem advance_shift : (σ.cur L.cur).advance = (L.cur.advance.1, σ.cur L.cur.advance.2) := by
  unfold Cursor.advance
  cases hr : L.cur.rest with
  | nil => simp [Shift.cur, hr]
  | cons c r => simp [Shift.cur, hr, Nat.add_right_comm]

theorem advanceBy_shift (n : Nat) (c : Cursor) : (σ.cur c).advanceBy n = σ.cur (c.advanceBy n) := by
  rw [Cursor.advanceBy_eq, Cursor.advanceBy_eq]
  simp [Shift.cur, Nat.add_right_comm]

theorem eatWhile_shift (p : Char → Bool) (c : Cursor) : (σ.cur c).eatWhile p = σ.cur (c.eatWhile p) := by
  rw [Cursor.eatWhile_eq, Cursor.eatWhile_eq]
  exact advanceBy_shift σ _ c

/-! ## side conditions and the step lemma -/

/-- the two primitives whose byte arithmetic saturates at 0 commute with the shift only away
from offset 0 (in the real control logic they run after at least one character of the token /
literal has been consumed) -/
def SideOk (o : Op) (L : Lexer) : Prop :=
  match o with
  | .pendingTextWithPrev => 1 ≤ L.tok.byte
  | .litResolve back => back ≤ L.curByte
  | _ => True

theorem step_shift (o : Op) (h : KPos L) (hn : L.linesR ≠ []) (hs : SideOk o L) :
    step cfg o (shiftL σ L) = ((step cfg o L).1, shiftL σ (step cfg o L).2) := by
  cases o <;> simp only [step]
  case hasCheckpoint | hasMark => simp only [shiftL_cp, shiftL_mark, Option.isSome_map]
  case lastTok | lastDefaultTok | secondLastDefaultTok =>
    simp only [shiftL_toksR, List.head?_map, map_lastDefault, map_secondLastDefault, Option.map_map]
    rfl
  case pendingText =>
    unfold Lexer.pendingText
    rw [shiftL_curByte σ h]
    exact pendingTextFrom_shift σ h hn _ _ _
  case pendingTextToMark =>
    rw [shiftL_mark, shiftL_curByte σ h]
    cases L.mark <;> exact pendingTextFrom_shift σ h hn _ _ _
  case pendingTextWithPrev =>
    have e : (shiftL σ L).tok.byte - 1 = (L.tok.byte - 1) + σ.db := by
      show L.tok.byte + σ.db - 1 = _
      have : 1 ≤ L.tok.byte := hs
      omega
    rw [e, shiftL_curByte σ h]
    exact pendingTextFrom_shift σ h hn _ _ _
  case advance =>
    rw [shiftL_cur, advance_shift]
    rfl
  case advanceBy n =>
    rw [dassert_shift, shiftL_cur, advanceBy_shift]
    rfl
  case eatWhile p =>
    rw [shiftL_cur, eatWhile_shift]
    rfl
  case addLine => rw [addLine_shift σ cfg h]
  case startToken => rw [startToken_shift σ cfg h]
  case markIfNone => rw [markIfNone_shift σ cfg h]
  case emitToken ch ty p => rw [resolve_shift, emitToken_shift σ cfg h]
  case emitTokenAtMark ch ty p => rw [resolve_shift, emitTokenAtMark_shift σ cfg h]
  case updateLastToken ch ty p => rw [resolve_shift, updateLastToken_shift σ cfg h hn]
  case retypeLastDefault e n =>
    rw [shiftL_toksR, map_retype]
    cases retypeLastDefaultAux e n L.toksR <;> rfl
  case insertSepBeforeLastDefault =>
    rw [shiftL_toksR, map_insertSep]
    split
    · cases insertSepAux L.toksR <;> rfl
    · rfl
  case emitError k => rw [emitError_shift σ h hn]
  case prepError k =>
    rw [prepError_shift σ h hn]
    rfl
  case emitPrepared =>
    rw [shiftL_errReg]
    cases L.errReg <;> rfl
  case popMode => rw [popMode_shift σ h hn]
  case mode => rw [mode_shift σ h hn]
  case popModeRaw | modifyTop | modifyAt | insertModeAt =>
    rw [shiftL_modesR]
    split <;> rfl
  case checkpoint => rw [checkpoint_shift]
  case bumpCheckpointModeLen n =>
    rw [shiftL_cp]
    cases L.cp <;> rfl
  case rollback => rw [rollback_shift σ h hn]
  case popPending => rw [popPendingStat_shift]
  case pendingStat => rw [pendingStat_shift σ h hn]
  case setPending b => rw [setPendingStat_shift σ h hn]
  case litBegin | litMarkEnd =>
    rw [shiftL_curByte σ h]
    rfl
  case litCut =>
    exact congrArg
      (fun r : (Nat × Nat) × Lexer =>
        ((), { r.2 with lit := { r.2.lit with start := min r.2.lit.start r.1.1, stop := r.1.2, seen := true } }))
      (addStringLiteralFromSrc_shift σ cfg h hn L.lit.lastEnd none)
  case litResolve back =>
    have e : (shiftL σ L).curByte - back = L.curByte - back + σ.db := by
      have : back ≤ L.curByte := hs
      rw [shiftL_curByte σ h]; omega
    -- exposes the `if` behind the `let` of `step`, so that `split` finds it
    show (if (!L.lit.seen) = true then _ else _ : Unit × Lexer) =
      ((if (!L.lit.seen) = true then _ else _ : Unit × Lexer).1,
        shiftL σ (if (!L.lit.seen) = true then _ else _ : Unit × Lexer).2)
    split
    · rfl
    · have := addStringLiteralFromSrc_shift σ cfg
        (h.dassert (cfg := cfg) (L.lit.seen || L.lit.start == L.lit.stop) "assertion failed: seen_escape || lit_start_idx == cur_lit_end_idx")
        hn L.lit.lastEnd (some (L.curByte - back))
      rw [Option.map_some, ← e] at this
      exact congrArg (fun r : (Nat × Nat) × Lexer => ((), { r.2 with payReg := .str r.2.lit.start r.1.2 })) this
  case emitEofAtCursor =>
    have h' := h.lastLineOrAdd (cfg := cfg)
    rw [lastLineOrAdd_shift σ cfg h]
    simp only [shiftL_curByte σ h', shiftL_curChar]
    exact congrArg (Prod.mk ()) (bufAddToken_shift σ cfg h' ⟨.DEFAULT, .EOF, _, _, _, .none⟩ h'.curPos)
  all_goals rfl

/-- lines are never empty (the first line is added by `Lexer::new`; a rollback keeps at least it) -/
structure KLn (L : Lexer) : Prop where
  ne : L.linesR ≠ []
  cp : ∀ c, L.cp = some c → 1 ≤ c.nLines

namespace KLn
variable {L : Lexer} {cfg : Cfg}

theorem frame {L' : Lexer} (h : KLn L) (e1 : L'.linesR = L.linesR) (e2 : L'.cp = L.cp) : KLn L' :=
  ⟨e1 ▸ h.ne, fun c hc => h.cp c (e2 ▸ hc)⟩

theorem addLineLike {L' : Lexer} (h : KLn L) {li : LineInfo} (e1 : L'.linesR = li :: L.linesR) (e2 : L'.cp = L.cp) : KLn L' :=
  ⟨by rw [e1]; simp, fun c hc => h.cp c (e2 ▸ hc)⟩

theorem lastLineOrAdd (h : KLn L) : KLn (L.lastLineOrAdd cfg).2 := by
  unfold Lexer.lastLineOrAdd; split
  · exact h.addLineLike (li := ⟨L.curByte, L.curChar⟩) rfl rfl
  · exact h

theorem emitError (h : KLn L) (k : ErrorKind) : KLn (L.emitError k) := h.frame rfl rfl

end KLn

theorem step_KLn (cfg : Cfg) (o : Op) (L : Lexer) (h : KLn L) : KLn (step cfg o L).2 := by
  cases o
  case addLine => exact h.addLineLike (li := ⟨L.curByte, L.curChar⟩) rfl rfl
  case startToken | emitEofAtCursor => exact (h.lastLineOrAdd (cfg := cfg)).frame rfl rfl
  case markIfNone =>
    simp only [step, Lexer.markIfNone]; split
    · exact h
    · exact (h.lastLineOrAdd (cfg := cfg)).frame rfl rfl
  case checkpoint =>
    refine ⟨h.ne, fun c hc => ?_⟩
    cases hc
    exact List.length_pos_iff.mpr h.ne
  case clearCheckpoint => exact ⟨h.ne, nofun⟩
  case bumpCheckpointModeLen n => exact ⟨h.ne, step_bump h.cp fun _ => id⟩
  case rollback =>
    simp only [step, Lexer.rollback]; split
    · exact ⟨truncR_ne_nil h.ne (h.cp _ ‹_›), nofun⟩
    · exact h.emitError _
  all_goals exact h.frame (step_frame.linesR rfl) (step_frame.cp rfl)

theorem new_KLn (cfg : Cfg) (s : List Char) : KLn (Lexer.new cfg s) :=
  ⟨by simp, by simp⟩

theorem run_KLn (cfg : Cfg) {α} (p : Prog α) (L : Lexer) (h : KLn L) : KLn (Prog.run cfg p L).2 :=
  run_inv cfg (step_KLn cfg) p L h

/-! ## programs commute with the shift -/

/-- the run hypothesis: the two saturating primitives are only used away from offset 0 -/
def RunOk (cfg : Cfg) {α} : Prog α → Lexer → Prop
  | .ret _, _ => True
  | .op o k, L => SideOk o L ∧ ((step cfg o L).2.panicked = none → RunOk cfg (k (step cfg o L).1) (step cfg o L).2)

/-- **Kernel relational theorem.**  Every program run on the shifted state performs the same
operations, returns the same value and ends in the shifted end state. -/
theorem run_shift (σ : Shift) (cfg : Cfg) {α} (p : Prog α) :
    ∀ (L : Lexer), KPos L → KLn L → RunOk cfg p L →
      Prog.run cfg p (shiftL σ L) = ((Prog.run cfg p L).1, shiftL σ (Prog.run cfg p L).2) := by
  induction p with
  | ret a => intro L _ _ _; rfl
  | op o k ih =>
    intro L h hn hok
    rw [run_op, run_op, step_shift σ cfg o h hn.ne hok.1, chk_shift_panicked]
    split
    · rfl
    · exact ih _ _ (step_KPos cfg o L h) (step_KLn cfg o L hn) (hok.2 ‹_›)

end SasLexer
