import SasLexer.Spec.Text
/-!
# The initial state

What `Lexer.new cfg s` holds, field by field, in terms of `bomChars s` and `bomLen s`; the case distinction on the BOM
is made once, in `bom_cases`.
-/
namespace SasLexer

theorem bom_cases (s : List Char) :
    (bomChars s = 0 ∧ bomLen s = 0 ∧ s.head? ≠ some BOM) ∨ (bomChars s = 1 ∧ bomLen s = 3 ∧ ∃ t, s = BOM :: t) := by
  rcases s with _ | ⟨c, t⟩
  · exact .inl ⟨rfl, rfl, nofun⟩
  · by_cases hc : c = BOM
    · exact .inr ⟨by simp [bomChars, hc], by simp [bomLen, hc], t, by rw [hc]⟩
    · exact .inl ⟨by simp [bomChars, hc], by simp [bomLen, hc], by simpa using hc⟩

theorem skipBom_new (s : List Char) :
    Lexer.skipBom (Cursor.new s) = ⟨s.drop (bomChars s), bomChars s, utf8Len s - bomLen s⟩ := by
  rcases bom_cases s with ⟨hc, hl, h⟩ | ⟨hc, hl, t, rfl⟩ <;> rw [hc, hl]
  · rcases s with _ | ⟨c, t⟩
    · rfl
    · simp [Lexer.skipBom, Cursor.new, show c ≠ BOM by simpa using h]
  · simp [Lexer.skipBom, Cursor.new, Cursor.advance, show BOM.utf8Size = 3 by decide]

theorem bomLen_le (s : List Char) : bomLen s ≤ utf8Len s := by
  rcases bom_cases s with ⟨-, hl, -⟩ | ⟨-, hl, t, rfl⟩ <;> rw [hl]
  · exact Nat.zero_le _
  · simp [utf8Len, show BOM.utf8Size = 3 by decide]

theorem bomChars_le (s : List Char) : bomChars s ≤ s.length := by
  rcases bom_cases s with ⟨hc, -, -⟩ | ⟨hc, -, t, rfl⟩ <;> simp [hc]

theorem bom_no_nl (s : List Char) : ∀ c ∈ s.take (bomChars s), c ≠ '\n' := by
  rcases bom_cases s with ⟨hc, -, -⟩ | ⟨hc, -, t, rfl⟩ <;> rw [hc]
  · simp
  · simp; decide

section
variable (cfg : Cfg) (s : List Char)

theorem new_eq : Lexer.new cfg s =
    { src := s, srcLen := utf8Len s, linesR := [⟨bomLen s, bomChars s⟩], toksR := [], litsR := [],
      cur := ⟨s.drop (bomChars s), bomChars s, utf8Len s - bomLen s⟩, tok := ⟨bomLen s, bomChars s, 0⟩,
      modesR := [.default], errsR := [], cp := none, nesting := 0, pendingR := [false], lit := { lastEnd := bomLen s } } := by
  simp only [Lexer.new, Lexer.bufAddLine, skipBom_new, Nat.sub_sub_self (bomLen_le s), Lexer.chk, bomLen_le, decide_true,
    Bool.not_true, Bool.and_false, Bool.false_eq_true, if_false]

@[simp] theorem new_srcLen : (Lexer.new cfg s).srcLen = utf8Len s := rfl
@[simp] theorem new_toksR : (Lexer.new cfg s).toksR = [] := rfl
@[simp] theorem new_errsR : (Lexer.new cfg s).errsR = [] := rfl
@[simp] theorem new_cp : (Lexer.new cfg s).cp = none := rfl
@[simp] theorem new_mark : (Lexer.new cfg s).mark = none := rfl
@[simp] theorem new_errReg : (Lexer.new cfg s).errReg = none := rfl
@[simp] theorem new_modesR : (Lexer.new cfg s).modesR = [.default] := rfl
@[simp] theorem new_pendingR : (Lexer.new cfg s).pendingR = [false] := rfl
@[simp] theorem new_cur : (Lexer.new cfg s).cur = ⟨s.drop (bomChars s), bomChars s, utf8Len s - bomLen s⟩ :=
  congrArg Lexer.cur (new_eq cfg s)
@[simp] theorem new_tok : (Lexer.new cfg s).tok = ⟨bomLen s, bomChars s, 0⟩ := congrArg Lexer.tok (new_eq cfg s)
@[simp] theorem new_linesR : (Lexer.new cfg s).linesR = [⟨bomLen s, bomChars s⟩] := congrArg Lexer.linesR (new_eq cfg s)
end

@[simp] theorem new_src (cfg : Cfg) (s : List Char) : (Lexer.new cfg s).src = s := rfl
@[simp] theorem new_panicked (cfg : Cfg) (s : List Char) : (Lexer.new cfg s).panicked = none :=
  congrArg Lexer.panicked (new_eq cfg s)

end SasLexer
