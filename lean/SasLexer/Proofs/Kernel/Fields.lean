import SasLexer.Prog
import SasLexer.Proofs.Attr
/-!
# What the methods of `Lexer` and the primitives do to each field

`Frame ws L L'` says that `L'` has the fields of `L` outside the list `ws`.  A method that is one record update
(`bufAddToken`, `emitError`, `pushMode`, `checkpoint`, …) is unfolded by `simp only [fld]`; a method `m` that branches
has a lemma `m_frame : Frame ws L (L.m …)`, and the equations cited by name are its one-field corollaries
(`popMode_frame.toksR rfl`; `fld` has those of `lastLineOrAdd` that `simp only [fld]` is asked for).  `Op.writes` lists
the fields a primitive may write; `step_frame` says that it leaves the others alone, so that the step lemma of an
invariant treats the primitives that write a field the invariant reads and disposes of the rest by
`step_frame.toksR rfl`, ….
The fields `litsR`, `lit`, `nesting` are left out: no invariant reads them.
-/
/-! ## `panic` / `dassert` change nothing but the ghost field `panicked` -/
namespace SasLexer.Lexer
variable (L : Lexer) (cfg : Cfg) (c : Bool) (m : String)
@[simp] theorem panic_src : (L.panic m).src = L.src := rfl
@[simp] theorem panic_srcLen : (L.panic m).srcLen = L.srcLen := rfl
@[simp] theorem panic_linesR : (L.panic m).linesR = L.linesR := rfl
@[simp] theorem panic_toksR : (L.panic m).toksR = L.toksR := rfl
@[simp] theorem panic_litsR : (L.panic m).litsR = L.litsR := rfl
@[simp] theorem panic_cur : (L.panic m).cur = L.cur := rfl
@[simp] theorem panic_tok : (L.panic m).tok = L.tok := rfl
@[simp] theorem panic_modesR : (L.panic m).modesR = L.modesR := rfl
@[simp] theorem panic_errsR : (L.panic m).errsR = L.errsR := rfl
@[simp] theorem panic_cp : (L.panic m).cp = L.cp := rfl
@[simp] theorem panic_nesting : (L.panic m).nesting = L.nesting := rfl
@[simp] theorem panic_pendingR : (L.panic m).pendingR = L.pendingR := rfl
@[simp] theorem panic_mark : (L.panic m).mark = L.mark := rfl
@[simp] theorem panic_lit : (L.panic m).lit = L.lit := rfl
@[simp] theorem panic_payReg : (L.panic m).payReg = L.payReg := rfl
@[simp] theorem panic_errReg : (L.panic m).errReg = L.errReg := rfl
@[simp] theorem dassert_src : (L.dassert cfg c m).src = L.src := rfl
@[simp] theorem dassert_srcLen : (L.dassert cfg c m).srcLen = L.srcLen := rfl
@[simp] theorem dassert_linesR : (L.dassert cfg c m).linesR = L.linesR := rfl
@[simp] theorem dassert_toksR : (L.dassert cfg c m).toksR = L.toksR := rfl
@[simp] theorem dassert_litsR : (L.dassert cfg c m).litsR = L.litsR := rfl
@[simp] theorem dassert_cur : (L.dassert cfg c m).cur = L.cur := rfl
@[simp] theorem dassert_tok : (L.dassert cfg c m).tok = L.tok := rfl
@[simp] theorem dassert_modesR : (L.dassert cfg c m).modesR = L.modesR := rfl
@[simp] theorem dassert_errsR : (L.dassert cfg c m).errsR = L.errsR := rfl
@[simp] theorem dassert_cp : (L.dassert cfg c m).cp = L.cp := rfl
@[simp] theorem dassert_nesting : (L.dassert cfg c m).nesting = L.nesting := rfl
@[simp] theorem dassert_pendingR : (L.dassert cfg c m).pendingR = L.pendingR := rfl
@[simp] theorem dassert_mark : (L.dassert cfg c m).mark = L.mark := rfl
@[simp] theorem dassert_lit : (L.dassert cfg c m).lit = L.lit := rfl
@[simp] theorem dassert_payReg : (L.dassert cfg c m).payReg = L.payReg := rfl
@[simp] theorem dassert_errReg : (L.dassert cfg c m).errReg = L.errReg := rfl
end SasLexer.Lexer

namespace SasLexer
open Lexer

attribute [fld] Lexer.panic Lexer.dassert Lexer.bufAddLine Lexer.addLine Lexer.bufAddToken Lexer.emitToken Lexer.clearMark
  Lexer.emitErrorInfo Lexer.emitError Lexer.pushMode Lexer.pushPendingStat Lexer.checkpoint Lexer.clearCheckpoint
  Lexer.addStringLiteral Lexer.pendingText

@[simp] theorem bufAddLine_src (cfg) (L : Lexer) (a b) : (L.bufAddLine cfg a b).2.src = L.src := rfl
@[simp] theorem bufAddToken_src (cfg) (L : Lexer) (t) : (L.bufAddToken cfg t).src = L.src := rfl
@[simp] theorem emitError_src (L : Lexer) (k) : (L.emitError k).src = L.src := rfl
@[simp] theorem pushMode_src (L : Lexer) (m) : (L.pushMode m).src = L.src := rfl
@[simp] theorem addStringLiteral_src (L : Lexer) (s) : (L.addStringLiteral s).2.src = L.src := rfl

/-! ## frames of the methods that branch -/

inductive Fld where
  | linesR | toksR | cur | tok | modesR | errsR | cp | pendingR | mark | payReg | errReg | panicked
  deriving DecidableEq

/-- `L'` has the fields of `L` outside `ws` -/
structure Frame (ws : List Fld) (L L' : Lexer) : Prop where
  src : L'.src = L.src
  srcLen : L'.srcLen = L.srcLen
  linesR : ws.contains .linesR = false → L'.linesR = L.linesR
  toksR : ws.contains .toksR = false → L'.toksR = L.toksR
  cur : ws.contains .cur = false → L'.cur = L.cur
  tok : ws.contains .tok = false → L'.tok = L.tok
  modesR : ws.contains .modesR = false → L'.modesR = L.modesR
  errsR : ws.contains .errsR = false → L'.errsR = L.errsR
  cp : ws.contains .cp = false → L'.cp = L.cp
  pendingR : ws.contains .pendingR = false → L'.pendingR = L.pendingR
  mark : ws.contains .mark = false → L'.mark = L.mark
  payReg : ws.contains .payReg = false → L'.payReg = L.payReg
  errReg : ws.contains .errReg = false → L'.errReg = L.errReg
  panicked : ws.contains .panicked = false → L'.panicked = L.panicked

section frames
variable {cfg : Cfg} {L : Lexer}

theorem lastLineOrAdd_frame : Frame [.linesR, .panicked] L (L.lastLineOrAdd cfg).2 := by
  unfold Lexer.lastLineOrAdd; split <;> constructor <;> intros <;> first | rfl | contradiction
/-- `startToken` sets `tok` in the result of `lastLineOrAdd`: the other fields reduce to that result's, so its frame serves
with `tok` given up (`nofun`: `tok` is in the list) -/
theorem startToken_frame : Frame [.linesR, .tok, .panicked] L (L.startToken cfg) :=
  { lastLineOrAdd_frame with tok := nofun }
theorem markIfNone_frame : Frame [.linesR, .mark, .panicked] L (L.markIfNone cfg) := by
  unfold Lexer.markIfNone; split
  · constructor <;> intros <;> rfl
  · exact { lastLineOrAdd_frame with mark := nofun }
theorem emitTokenAtMark_frame {ch ty p} : Frame [.toksR, .panicked] L (L.emitTokenAtMark cfg ch ty p) := by
  unfold Lexer.emitTokenAtMark; split <;> constructor <;> intros <;> first | rfl | contradiction
theorem updateLastToken_frame {ch ty p} : Frame [.toksR, .errsR, .panicked] L (L.updateLastToken cfg ch ty p) := by
  unfold Lexer.updateLastToken; split <;> constructor <;> intros <;> first | rfl | contradiction
theorem popMode_frame : Frame [.modesR, .errsR] L L.popMode := by
  unfold Lexer.popMode; split <;> constructor <;> intros <;> first | rfl | contradiction
theorem mode_frame : Frame [.modesR, .errsR] L L.mode.2 := by
  unfold Lexer.mode; split <;> constructor <;> intros <;> first | rfl | contradiction
theorem popPendingStat_frame : Frame [.pendingR] L L.popPendingStat := by
  unfold Lexer.popPendingStat; split <;> constructor <;> intros <;> first | rfl | contradiction
theorem pendingStat_frame : Frame [.pendingR, .errsR] L L.pendingStat.2 := by
  unfold Lexer.pendingStat; split <;> constructor <;> intros <;> first | rfl | contradiction
theorem setPendingStat_frame {v} : Frame [.pendingR, .errsR] L (L.setPendingStat v) := by
  unfold Lexer.setPendingStat; split <;> constructor <;> intros <;> first | rfl | contradiction
theorem rollback_frame : Frame [.linesR, .toksR, .cur, .tok, .modesR, .errsR, .cp, .errReg] L L.rollback := by
  unfold Lexer.rollback; split <;> constructor <;> intros <;> first | rfl | contradiction
theorem addStringLiteralFromSrc_frame {a b} : Frame [.errsR, .panicked] L (L.addStringLiteralFromSrc cfg a b).2 := by
  unfold Lexer.addStringLiteralFromSrc; dsimp only [fld]; split <;> constructor <;> intros <;> first | rfl | contradiction
theorem pendingTextFrom_frame {a b k} : Frame [.errsR] L (L.pendingTextFrom a b k).2 := by
  unfold Lexer.pendingTextFrom; split <;> constructor <;> intros <;> first | rfl | contradiction

end frames

section methods
variable (cfg : Cfg) (L : Lexer)

@[simp] theorem emitError_pendingR (k) : (L.emitError k).pendingR = L.pendingR := rfl
@[simp] theorem bufAddToken_pendingR (t) : (L.bufAddToken cfg t).pendingR = L.pendingR := rfl

theorem lastLineOrAdd_src : (L.lastLineOrAdd cfg).2.src = L.src := lastLineOrAdd_frame.src
@[fld] theorem lastLineOrAdd_srcLen : (L.lastLineOrAdd cfg).2.srcLen = L.srcLen := lastLineOrAdd_frame.srcLen
theorem lastLineOrAdd_toksR : (L.lastLineOrAdd cfg).2.toksR = L.toksR := lastLineOrAdd_frame.toksR rfl
@[fld] theorem lastLineOrAdd_cur : (L.lastLineOrAdd cfg).2.cur = L.cur := lastLineOrAdd_frame.cur rfl
@[fld] theorem lastLineOrAdd_tok : (L.lastLineOrAdd cfg).2.tok = L.tok := lastLineOrAdd_frame.tok rfl
@[fld] theorem lastLineOrAdd_modesR : (L.lastLineOrAdd cfg).2.modesR = L.modesR := lastLineOrAdd_frame.modesR rfl
@[fld] theorem lastLineOrAdd_errsR : (L.lastLineOrAdd cfg).2.errsR = L.errsR := lastLineOrAdd_frame.errsR rfl
theorem lastLineOrAdd_cp : (L.lastLineOrAdd cfg).2.cp = L.cp := lastLineOrAdd_frame.cp rfl
theorem lastLineOrAdd_mark : (L.lastLineOrAdd cfg).2.mark = L.mark := lastLineOrAdd_frame.mark rfl
theorem lastLineOrAdd_payReg : (L.lastLineOrAdd cfg).2.payReg = L.payReg := lastLineOrAdd_frame.payReg rfl
theorem lastLineOrAdd_errReg : (L.lastLineOrAdd cfg).2.errReg = L.errReg := lastLineOrAdd_frame.errReg rfl

theorem startToken_srcLen : (L.startToken cfg).srcLen = L.srcLen := startToken_frame.srcLen
theorem startToken_toksR : (L.startToken cfg).toksR = L.toksR := startToken_frame.toksR rfl
theorem startToken_cur : (L.startToken cfg).cur = L.cur := startToken_frame.cur rfl
theorem startToken_errsR : (L.startToken cfg).errsR = L.errsR := startToken_frame.errsR rfl
theorem startToken_cp : (L.startToken cfg).cp = L.cp := startToken_frame.cp rfl
theorem startToken_errReg : (L.startToken cfg).errReg = L.errReg := startToken_frame.errReg rfl

theorem markIfNone_toksR : (L.markIfNone cfg).toksR = L.toksR := markIfNone_frame.toksR rfl
theorem markIfNone_cur : (L.markIfNone cfg).cur = L.cur := markIfNone_frame.cur rfl

theorem emitTokenAtMark_cur (ch ty p) : (L.emitTokenAtMark cfg ch ty p).cur = L.cur := emitTokenAtMark_frame.cur rfl

theorem updateLastToken_srcLen (ch ty p) : (L.updateLastToken cfg ch ty p).srcLen = L.srcLen := updateLastToken_frame.srcLen
theorem updateLastToken_cur (ch ty p) : (L.updateLastToken cfg ch ty p).cur = L.cur := updateLastToken_frame.cur rfl
theorem updateLastToken_cp (ch ty p) : (L.updateLastToken cfg ch ty p).cp = L.cp := updateLastToken_frame.cp rfl
theorem updateLastToken_errReg (ch ty p) : (L.updateLastToken cfg ch ty p).errReg = L.errReg := updateLastToken_frame.errReg rfl

theorem popMode_src : L.popMode.src = L.src := popMode_frame.src
theorem popMode_srcLen : L.popMode.srcLen = L.srcLen := popMode_frame.srcLen
theorem popMode_linesR : L.popMode.linesR = L.linesR := popMode_frame.linesR rfl
theorem popMode_toksR : L.popMode.toksR = L.toksR := popMode_frame.toksR rfl
theorem popMode_cur : L.popMode.cur = L.cur := popMode_frame.cur rfl
theorem popMode_tok : L.popMode.tok = L.tok := popMode_frame.tok rfl
theorem popMode_cp : L.popMode.cp = L.cp := popMode_frame.cp rfl
theorem popMode_mark : L.popMode.mark = L.mark := popMode_frame.mark rfl
@[simp] theorem popMode_payReg : L.popMode.payReg = L.payReg := popMode_frame.payReg rfl
theorem popMode_errReg : L.popMode.errReg = L.errReg := popMode_frame.errReg rfl
theorem popMode_panicked : L.popMode.panicked = L.panicked := popMode_frame.panicked rfl

@[simp] theorem mode_payReg : L.mode.2.payReg = L.payReg := mode_frame.payReg rfl

theorem popPendingStat_toksR : L.popPendingStat.toksR = L.toksR := popPendingStat_frame.toksR rfl

theorem pendingStat_toksR : L.pendingStat.2.toksR = L.toksR := pendingStat_frame.toksR rfl

theorem setPendingStat_toksR (v) : (L.setPendingStat v).toksR = L.toksR := setPendingStat_frame.toksR rfl

@[simp] theorem rollback_payReg : L.rollback.payReg = L.payReg := rollback_frame.payReg rfl

theorem addStringLiteralFromSrc_toksR (a b) : (L.addStringLiteralFromSrc cfg a b).2.toksR = L.toksR := addStringLiteralFromSrc_frame.toksR rfl

theorem pendingTextFrom_toksR (a b k) : (L.pendingTextFrom a b k).2.toksR = L.toksR := pendingTextFrom_frame.toksR rfl

@[simp, fld] theorem startToken_tok : (L.startToken cfg).tok = ⟨L.curByte, L.curChar, (L.lastLineOrAdd cfg).1⟩ := rfl
@[simp, fld] theorem startToken_linesR : (L.startToken cfg).linesR = (L.lastLineOrAdd cfg).2.linesR := rfl
@[simp, fld] theorem startToken_panicked : (L.startToken cfg).panicked = (L.lastLineOrAdd cfg).2.panicked := rfl

theorem lastLineOrAdd_curByte : (L.lastLineOrAdd cfg).2.curByte = L.curByte := by simp only [Lexer.curByte, fld]

end methods

@[simp] theorem lastLineOrAdd_cur' (cfg) (L : Lexer) : (L.lastLineOrAdd cfg).2.cur = L.cur := lastLineOrAdd_cur cfg L
@[simp] theorem lastLineOrAdd_src2 (cfg) (L : Lexer) : (L.lastLineOrAdd cfg).2.src = L.src := lastLineOrAdd_src cfg L

/-- the cursor's byte offset grows as its remaining bytes shrink -/
theorem curByte_mono {L L' : Lexer} (e : L'.srcLen = L.srcLen) (h : L'.cur.remBytes ≤ L.cur.remBytes) : L.curByte ≤ L'.curByte := by
  simp only [Lexer.curByte, e]; omega

/-! ## `truncR`, what `rollback` does to the lists -/

theorem truncR_sublist {α} (l : List α) (n : Nat) : (truncR l n).Sublist l := List.drop_sublist _ _

theorem mem_truncR {α} {l : List α} {n : Nat} {x : α} (hx : x ∈ truncR l n) : x ∈ l := List.mem_of_mem_drop hx

theorem truncR_cons_of_le {α} (x : α) (l : List α) {n : Nat} (h : n ≤ l.length) :
    truncR (x :: l) n = truncR l n := by
  unfold truncR
  simp only [List.length_cons]
  have : l.length + 1 - n = (l.length - n) + 1 := by omega
  rw [this, List.drop_succ_cons]

theorem length_truncR {α} (l : List α) (n : Nat) : (truncR l n).length = min n l.length := by
  unfold truncR; simp; omega

theorem truncR_self {α} (l : List α) : truncR l l.length = l := by
  unfold truncR; simp

theorem truncR_map {α β} (f : α → β) (l : List α) (n : Nat) : truncR (l.map f) n = (truncR l n).map f := by
  simp [truncR, List.map_drop]

theorem truncR_map_congr {α β} (f : α → β) {l l' : List α} (e : l.map f = l'.map f) (n : Nat) :
    (truncR l n).map f = (truncR l' n).map f := by
  rw [← truncR_map, ← truncR_map, e]

theorem truncR_ne_nil {α} {l : List α} {n : Nat} (hl : l ≠ []) (hn : 1 ≤ n) : truncR l n ≠ [] := by
  intro h
  have hlen := congrArg List.length h
  rw [length_truncR, List.length_nil] at hlen
  have : 0 < l.length := List.length_pos_iff.mpr hl
  omega

theorem truncR_reverse {α} (l : List α) (n : Nat) : (truncR l n).reverse = l.reverse.take n := by
  unfold truncR
  rw [List.reverse_drop]
  by_cases hn : n ≤ l.length
  · congr 1; omega
  · rw [List.take_of_length_le (by simp; omega), List.take_of_length_le (by simp; omega)]

theorem truncR_getLast {α} (l : List α) (n : Nat) (hn : 1 ≤ n) (hl : n ≤ l.length) :
    (truncR l n).getLast? = l.getLast? := by
  unfold truncR
  rw [List.getLast?_drop]
  have : ¬ l.length ≤ l.length - n := by omega
  simp [this]

theorem truncR_zero {α} (l : List α) : truncR l 0 = [] := by simp [truncR]

theorem truncR_truncR {α} (l : List α) {n k : Nat} (hk : k ≤ n) (hn : n ≤ l.length) : truncR (truncR l n) k = truncR l k := by
  unfold truncR
  rw [List.drop_drop]
  simp only [List.length_drop]
  congr 1
  omega

/-- the token with (oldest-first) index `i` is among the oldest `i + 1` -/
theorem mem_truncR_of_reverse_getElem? {α} (l : List α) (i : Nat) (x : α) (h : l.reverse[i]? = some x) :
    x ∈ truncR l (i + 1) := by
  have hi : i < l.length := by simpa using (List.getElem?_eq_some_iff.1 h).1
  rw [List.getElem?_reverse hi] at h
  refine List.mem_of_getElem? (i := 0) ?_
  rw [truncR, List.getElem?_drop, ← h]
  congr 1
  omega

/-! ## the two primitives that edit the token list in place -/

/-- `retypeLastDefault` changes the type of one token -/
theorem retype_eq {e n : TokenType} : ∀ {ts ts' : List TokInfo}, retypeLastDefaultAux e n ts = some ts' →
    ∃ a t b, ts = a ++ t :: b ∧ ts' = a ++ { t with ty := n } :: b ∧ t.chan = .DEFAULT ∧ t.ty = e
  | [], _, h => nomatch h
  | t :: ts, ts', h => by
    unfold retypeLastDefaultAux at h
    split at h
    · split at h
      · cases h; exact ⟨[], t, ts, rfl, rfl, ‹_›, ‹_›⟩
      · cases h
    · obtain ⟨r, hr, rfl⟩ := Option.map_eq_some_iff.1 h
      obtain ⟨a, t0, b, rfl, rfl, hc⟩ := retype_eq hr
      exact ⟨t :: a, t0, b, rfl, rfl, hc⟩

/-- `insertSepBeforeLastDefault` puts a separator with the position of a token right behind it (newest first) -/
theorem insertSep_eq : ∀ {ts ts' : List TokInfo}, insertSepAux ts = some ts' →
    ∃ a t b, ts = a ++ t :: b ∧ ts' = a ++ t :: { t with chan := .DEFAULT, ty := .MacroSep, payload := .none } :: b
  | [], _, h => nomatch h
  | t :: ts, ts', h => by
    unfold insertSepAux at h
    split at h
    · cases h; exact ⟨[], t, ts, rfl, rfl⟩
    · obtain ⟨r, hr, rfl⟩ := Option.map_eq_some_iff.1 h
      obtain ⟨a, t0, b, rfl, rfl⟩ := insertSep_eq hr
      exact ⟨t :: a, t0, b, rfl, rfl⟩

/-- every token afterwards has the position of a token that was there, and its type unless it is the edited one -/
theorem retype_mem {e n : TokenType} {ts ts' : List TokInfo} (h : retypeLastDefaultAux e n ts = some ts') :
    ∀ t' ∈ ts', ∃ t ∈ ts, t'.byte = t.byte ∧ t'.start = t.start ∧ t'.line = t.line ∧ (t'.ty = t.ty ∨ t'.ty = n) := by
  obtain ⟨a, t, b, rfl, rfl, -⟩ := retype_eq h
  intro t' ht'
  simp only [List.mem_append, List.mem_cons] at ht' ⊢
  rcases ht' with h | rfl | h
  · exact ⟨t', .inl h, rfl, rfl, rfl, .inl rfl⟩
  · exact ⟨t, .inr (.inl rfl), rfl, rfl, rfl, .inr rfl⟩
  · exact ⟨t', .inr (.inr h), rfl, rfl, rfl, .inl rfl⟩

theorem insertSep_mem {ts ts' : List TokInfo} (h : insertSepAux ts = some ts') :
    ∀ t' ∈ ts', ∃ t ∈ ts, t'.byte = t.byte ∧ t'.start = t.start ∧ t'.line = t.line ∧ (t'.ty = t.ty ∨ t'.ty = .MacroSep) := by
  obtain ⟨a, t, b, rfl, rfl⟩ := insertSep_eq h
  intro t' ht'
  simp only [List.mem_append, List.mem_cons] at ht' ⊢
  rcases ht' with h | rfl | rfl | h
  · exact ⟨t', .inl h, rfl, rfl, rfl, .inl rfl⟩
  · exact ⟨t', .inr (.inl rfl), rfl, rfl, rfl, .inl rfl⟩
  · exact ⟨t, .inr (.inl rfl), rfl, rfl, rfl, .inr rfl⟩
  · exact ⟨t', .inr (.inr h), rfl, rfl, rfl, .inl rfl⟩

theorem length_retype {e n : TokenType} {ts ts' : List TokInfo} (h : retypeLastDefaultAux e n ts = some ts') :
    ts'.length = ts.length := by
  obtain ⟨a, t, b, rfl, rfl, -⟩ := retype_eq h
  simp

theorem length_insertSep {ts ts' : List TokInfo} (h : insertSepAux ts = some ts') : ts'.length = ts.length + 1 := by
  obtain ⟨a, t, b, rfl, rfl⟩ := insertSep_eq h
  simp; omega

/-! ## the two primitives that edit the mode stack in place -/

theorem modifyNth_eq {f : Mode → Option Mode} {ms ms' : List Mode} {i : Nat} (h : modifyNthFromBottom f ms i = some ms') :
    ∃ j m m', ms[j]? = some m ∧ f m = some m' ∧ ms' = ms.set j m' := by
  unfold modifyNthFromBottom at h
  split at h
  · dsimp only at h
    split at h
    · obtain ⟨m', hf, rfl⟩ := Option.map_eq_some_iff.1 h
      exact ⟨_, _, m', ‹_›, hf, rfl⟩
    · cases h
  · cases h

theorem insertNth_eq {m : Mode} {ms ms' : List Mode} {i : Nat} (h : insertNthFromBottom m ms i = some ms') :
    ∃ j, ms' = ms.take j ++ m :: ms.drop j := by
  unfold insertNthFromBottom at h
  split at h
  · exact ⟨_, (Option.some.inj h).symm⟩
  · cases h

/-! ## the ghost field is never cleared -/

theorem chk_none {d : Bool} {p : Option String} {c : Bool} {m : String}
    (h : Lexer.chk d p c m = none) : p = none ∧ (d = true → c = true) := by
  unfold Lexer.chk at h
  cases p with
  | some x => simp at h
  | none =>
    refine ⟨rfl, ?_⟩
    intro hd
    cases c with
    | true => rfl
    | false => simp [hd] at h

theorem chk_some_mono {d : Bool} {p : Option String} {c : Bool} {m : String} :
    Lexer.chk d p c m = none → p = none := fun h => (chk_none h).1

theorem tokChecks_mono {cfg : Cfg} {L : Lexer} {t : TokInfo} (h : tokChecks cfg L t = none) : L.panicked = none := by
  unfold tokChecks at h
  dsimp only at h
  split at h <;> exact chk_some_mono (chk_some_mono (chk_some_mono (chk_some_mono h)))

section panicked
variable {cfg : Cfg} {L : Lexer}

theorem lastLineOrAdd_panicked_mono (h : (L.lastLineOrAdd cfg).2.panicked = none) : L.panicked = none := by
  unfold Lexer.lastLineOrAdd at h; split at h
  · exact chk_some_mono h
  · exact h
theorem markIfNone_panicked_mono (h : (L.markIfNone cfg).panicked = none) : L.panicked = none := by
  unfold Lexer.markIfNone at h; split at h
  · exact h
  · exact lastLineOrAdd_panicked_mono h
theorem emitTokenAtMark_panicked_mono {ch ty p} (h : (L.emitTokenAtMark cfg ch ty p).panicked = none) : L.panicked = none := by
  unfold Lexer.emitTokenAtMark at h; split at h
  · exact tokChecks_mono h
  · exact h
theorem updateLastToken_panicked_mono {ch ty p} (h : (L.updateLastToken cfg ch ty p).panicked = none) : L.panicked = none := by
  unfold Lexer.updateLastToken at h; split at h
  · exact h
  · exact tokChecks_mono h
theorem addStringLiteralFromSrc_panicked_mono {a b} (h : (L.addStringLiteralFromSrc cfg a b).2.panicked = none) :
    L.panicked = none := by
  unfold Lexer.addStringLiteralFromSrc at h; dsimp only at h; split at h <;> exact chk_some_mono h

theorem panic_panicked (cfg : Cfg) (m : String) (L : Lexer) : (step cfg (.panic m) L).2.panicked ≠ none := by
  simp only [step, Lexer.panic, Lexer.chk]
  cases L.panicked <;> simp

end panicked

/-! ## the fields a primitive may write -/

/-- the fields a primitive may write, `litsR`, `lit` and `nesting` apart (no invariant reads them) -/
def Op.writes : Op → List Fld
  | .pendingText | .pendingTextToMark | .pendingTextWithPrev | .emitError _ => [.errsR]
  | .advance | .eatWhile _ => [.cur]
  | .advanceBy _ => [.cur, .panicked]
  | .addLine => [.linesR, .panicked]
  | .startToken => [.linesR, .tok, .panicked]
  | .markIfNone => [.linesR, .mark, .panicked]
  | .clearMark => [.mark]
  | .emitToken .. | .emitTokenAtMark .. => [.toksR, .panicked]
  | .retypeLastDefault .. | .insertSepBeforeLastDefault => [.toksR]
  | .updateLastToken .. => [.toksR, .errsR, .panicked]
  | .emitEofAtCursor => [.linesR, .toksR, .panicked]
  | .prepError _ => [.errReg]
  | .emitPrepared => [.errsR, .errReg]
  | .pushMode _ | .popModeRaw | .modifyTop _ | .modifyAt .. => [.modesR]
  | .insertModeAt .. => [.modesR, .panicked]
  | .popMode | .mode => [.modesR, .errsR]
  | .checkpoint => [.cp, .panicked]
  | .clearCheckpoint | .bumpCheckpointModeLen _ => [.cp]
  | .rollback => [.linesR, .toksR, .cur, .tok, .modesR, .errsR, .cp, .errReg]
  | .pushPending _ | .popPending => [.pendingR]
  | .pendingStat | .setPending _ => [.pendingR, .errsR]
  | .litCut => [.errsR, .panicked]
  | .litResolve _ => [.errsR, .payReg, .panicked]
  | .litAddDecoded _ | .payClear => [.payReg]
  | .dassert .. | .panic _ => [.panicked]
  | _ => []

section step
variable {cfg : Cfg} {o : Op} {L : Lexer}

/-- the table `Op.writes` is right: a primitive that is one call of a method has the method's frame, one that sets further
fields in a method's result has that frame with those fields given up (as in `startToken_frame`); in the remaining cases
each field is computed (`rfl`) or is in the list -/
theorem step_frame : Frame o.writes L (step cfg o L).2 := by
  cases o
  case startToken => exact startToken_frame
  case markIfNone => exact markIfNone_frame
  case emitTokenAtMark => exact emitTokenAtMark_frame
  case updateLastToken => exact updateLastToken_frame
  case popMode => exact popMode_frame
  case mode => exact mode_frame
  case rollback => exact rollback_frame
  case popPending => exact popPendingStat_frame
  case pendingStat => exact pendingStat_frame
  case setPending => exact setPendingStat_frame
  case pendingText | pendingTextToMark | pendingTextWithPrev => exact pendingTextFrom_frame
  -- the step also sets `lit` in the method's result, a field `Frame` does not list: the other fields reduce to that result's
  case litCut => exact { addStringLiteralFromSrc_frame with }
  case emitEofAtCursor => exact { lastLineOrAdd_frame with toksR := nofun, panicked := nofun }
  case litResolve =>
    simp only [step]; split
    · constructor <;> intros <;> first | rfl | contradiction
    · exact { addStringLiteralFromSrc_frame with payReg := nofun, panicked := nofun }
  all_goals simp only [step] <;> (repeat' split) <;> constructor <;> intros <;> first | rfl | contradiction

/-- the two primitives that edit the token list leave the state alone or replace the list by what their `Aux` returns: an
invariant need only be shown of that state -/
theorem step_retype {I : Lexer → Prop} {e n : TokenType} (h : I L)
    (hw : ∀ ts, retypeLastDefaultAux e n L.toksR = some ts → I { L with toksR := ts }) :
    I (step cfg (.retypeLastDefault e n) L).2 := by
  simp only [step]; split
  · exact hw _ ‹_›
  · exact h

/-- `bumpCheckpointModeLen` changes the `modeLen` of the live checkpoint and nothing else: what an invariant knows of the
checkpoint without reading `modeLen` carries over (`hP` is `fun _ => id` then) -/
theorem step_bump {P : Checkpoint → Prop} {n : Nat} (h : ∀ c, L.cp = some c → P c)
    (hP : ∀ c, P c → P { c with modeLen := c.modeLen + n }) :
    ∀ c, (step cfg (.bumpCheckpointModeLen n) L).2.cp = some c → P c := by
  intro c hc
  obtain ⟨c0, h0, rfl⟩ := Option.map_eq_some_iff.1 hc
  exact hP c0 (h c0 h0)

theorem step_emitTokenAtMark {I : Lexer → Prop} {ch : Channel} {ty : TokenType} {p : PaySpec} (h : I L)
    (hw : ∀ m, L.mark = some m → I (L.bufAddToken cfg ⟨ch, ty, m.byte, m.start, m.line, p.resolve L⟩)) :
    I (step cfg (.emitTokenAtMark ch ty p) L).2 := by
  simp only [step, Lexer.emitTokenAtMark]; split
  · exact hw _ ‹_›
  · exact h

theorem step_insertSep {I : Lexer → Prop} (h : I L) (hw : ∀ ts, insertSepAux L.toksR = some ts → I { L with toksR := ts }) :
    I (step cfg .insertSepBeforeLastDefault L).2 := by
  simp only [step]; split
  · split
    · exact hw _ ‹_›
    · exact h
  · exact h

theorem step_panicked_mono (cfg : Cfg) (o : Op) (L : Lexer) (h : (step cfg o L).2.panicked = none) : L.panicked = none := by
  cases o
  case addLine | advanceBy | checkpoint | dassert | panic => exact chk_some_mono h
  case startToken => exact lastLineOrAdd_panicked_mono h
  case markIfNone => exact markIfNone_panicked_mono h
  case emitToken => exact tokChecks_mono h
  case emitTokenAtMark => exact emitTokenAtMark_panicked_mono h
  case updateLastToken => exact updateLastToken_panicked_mono h
  case insertModeAt => simp only [step] at h; split at h <;> first | exact h | exact chk_some_mono h
  case litCut => exact addStringLiteralFromSrc_panicked_mono h
  case litResolve =>
    simp only [step] at h; split at h
    · exact chk_some_mono h
    · exact chk_some_mono (addStringLiteralFromSrc_panicked_mono h)
  case emitEofAtCursor => exact lastLineOrAdd_panicked_mono (tokChecks_mono h)
  all_goals exact (step_frame.panicked rfl).symm.trans h

/-- the error list is as it was, or has gained one error prepared in the state `L` -/
def ErrStep (L L' : Lexer) : Prop := L'.errsR = L.errsR ∨ ∃ k, L'.errsR = L.prepError k :: L.errsR

theorem popMode_errStep (L : Lexer) : ErrStep L L.popMode := by
  unfold Lexer.popMode; split
  · exact .inl rfl
  · exact .inr ⟨_, rfl⟩

theorem mode_errStep (L : Lexer) : ErrStep L L.mode.2 := by
  unfold Lexer.mode; split
  · exact .inl rfl
  · exact .inr ⟨_, rfl⟩

theorem pendingStat_errStep (L : Lexer) : ErrStep L L.pendingStat.2 := by
  unfold Lexer.pendingStat; split
  · exact .inr ⟨_, rfl⟩
  · exact .inl rfl

theorem setPendingStat_errStep (L : Lexer) (v : Bool) : ErrStep L (L.setPendingStat v) := by
  unfold Lexer.setPendingStat; split
  · exact .inr ⟨_, rfl⟩
  · exact .inl rfl

theorem updateLastToken_errStep (cfg : Cfg) (L : Lexer) (ch ty p) : ErrStep L (L.updateLastToken cfg ch ty p) := by
  unfold Lexer.updateLastToken; split
  · exact .inl rfl
  · exact .inr ⟨_, rfl⟩

theorem pendingTextFrom_errStep (L : Lexer) (a b k) : ErrStep L (L.pendingTextFrom a b k).2 := by
  unfold Lexer.pendingTextFrom; split
  · exact .inl rfl
  · exact .inr ⟨k, rfl⟩

theorem addStringLiteralFromSrc_errStep (cfg : Cfg) (L : Lexer) (a b) : ErrStep L (L.addStringLiteralFromSrc cfg a b).2 := by
  unfold Lexer.addStringLiteralFromSrc; dsimp only; split
  · exact .inl rfl
  · exact .inr ⟨_, rfl⟩

/-- `emitPrepared` appends the prepared error and `rollback` truncates the list, and both write `errReg`; every other
primitive appends at most one error, prepared in the state it starts from (`emitError`, and the defensive branches of ten
more) -/
theorem step_errStep (h : o.writes.contains .errReg = false) : ErrStep L (step cfg o L).2 := by
  cases o
  case emitPrepared | rollback => cases h
  case emitError k => exact .inr ⟨k, rfl⟩
  case popMode => exact popMode_errStep L
  case mode => exact mode_errStep L
  case pendingStat => exact pendingStat_errStep L
  case setPending v => exact setPendingStat_errStep L v
  case updateLastToken => exact updateLastToken_errStep ..
  case pendingText | pendingTextToMark | pendingTextWithPrev => exact pendingTextFrom_errStep ..
  case litCut => exact addStringLiteralFromSrc_errStep cfg L _ _
  case litResolve =>
    simp only [step]; split
    · exact .inl rfl
    · exact addStringLiteralFromSrc_errStep cfg (L.dassert cfg _ _) _ _
  case prepError => exact .inl rfl
  all_goals exact .inl (step_frame.errsR rfl)

end step
end SasLexer
