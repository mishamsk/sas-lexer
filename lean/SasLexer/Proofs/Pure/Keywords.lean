import SasLexer.Lex.MacroCall
/-!
# Facts about the keyword look-ups of the model (`lookupKw`, `lexMacroCallStatOrLabel`,
`isMacroEvalMnemonic`), stated without reference to any discipline
-/
namespace SasLexer

theorem lookup_mem {α} [BEq α] [LawfulBEq α] {β} {l : List (α × β)} {k : α} {v : β} (h : l.lookup k = some v) :
    (k, v) ∈ l := by
  obtain ⟨l₁, l₂, rfl, -⟩ := List.lookup_eq_some_iff.1 h
  simp

theorem mkeywords_no_eof : ∀ p ∈ TokenType.MKEYWORDS, p.2 ≠ TokenType.EOF := by decide +kernel
theorem keywords_no_eof : ∀ p ∈ TokenType.KEYWORDS, p.2 ≠ TokenType.EOF := by decide +kernel

theorem lookupKw_ne_eof {k : String} {t : TokenType} (h : lookupKw TokenType.KEYWORDS k = some t) : t ≠ .EOF :=
  keywords_no_eof _ (lookup_mem h)

/-- the result is a macro identifier, or decided by a row of the keyword table -/
theorem lexMacroCallStatOrLabel_eq (r : List Char) :
    lexMacroCallStatOrLabel r = .ok (.MacroIdentifier, (r.takeWhile isIdentContinue).length) ∨
    ∃ p ∈ TokenType.MKEYWORDS, lexMacroCallStatOrLabel r =
      if isMacroCallOrStatTokType p.2 then .ok (p.2, (r.takeWhile isIdentContinue).length)
      else .error .InternalErrorOutOfBounds := by
  unfold lexMacroCallStatOrLabel
  simp only
  split
  · exact .inl rfl
  · split
    · exact .inl rfl
    · exact .inr ⟨_, lookup_mem ‹_›, rfl⟩

theorem lexMacroCallStatOrLabel_ok {r : List Char} {t : TokenType} {n : Nat}
    (h : lexMacroCallStatOrLabel r = .ok (t, n)) : t ≠ .EOF ∧ n = (r.takeWhile isIdentContinue).length := by
  rcases lexMacroCallStatOrLabel_eq r with e | ⟨p, hp, e⟩ <;> rw [e] at h
  · cases h; exact ⟨by decide, rfl⟩
  · split at h
    · cases h; exact ⟨mkeywords_no_eof p hp, rfl⟩
    · cases h

/-- the mnemonic operators of macro expressions, spelled in upper case -/
def mnemonics : List (TokenType × List Char) :=
  [(.KwEQ, ['E', 'Q']), (.KwIN, ['I', 'N']), (.KwOR, ['O', 'R']), (.KwLT, ['L', 'T']), (.KwLE, ['L', 'E']),
   (.KwGT, ['G', 'T']), (.KwGE, ['G', 'E']), (.KwAND, ['A', 'N', 'D']), (.KwNE, ['N', 'E']),
   (.KwNOT, ['N', 'O', 'T'])]

/-- a character that is one of a lower and an upper case letter is that letter up to case -/
theorem upper_of_beq_or {c lo up : Char} (h : (c == lo || c == up) = true)
    (hlo : toUpperAscii lo = up) (hup : toUpperAscii up = up) : toUpperAscii c = up := by
  simp only [Bool.or_eq_true, beq_iff_eq] at h
  rcases h with rfl | rfl <;> assumption

theorem ite_eq_imp {α} {c : Prop} [Decidable c] {a b x : α} {P : Prop} (ha : c → a = x → P) (hb : b = x → P) :
    (if c then a else b) = x → P := by
  split
  · exact ha ‹_›
  · exact hb

/-- an arm of `isMacroEvalMnemonic` that matches two letters -/
theorem mnemonic_arm2 {k ty : TokenType} {extra : Nat} {s n a b : Char} {tl : List Char}
    (hs : toUpperAscii s = a) (hn : toUpperAscii n = b) (hm : (k, [a, b]) ∈ mnemonics) :
    (some k, 1) = (some ty, extra) → (ty, ((s :: n :: tl).take (1 + extra)).map toUpperAscii) ∈ mnemonics := by
  rintro ⟨⟩; simpa [hs, hn] using hm

/-- an arm that matches three letters (the third is read as `tl.head?.getD ' '`, and `' '` is no letter) -/
theorem mnemonic_arm3 {k ty : TokenType} {extra : Nat} {s n a b d : Char} {tl : List Char}
    (hs : toUpperAscii s = a) (hn : toUpperAscii n = b) (hd : toUpperAscii (tl.head?.getD ' ') = d)
    (ht : tl ≠ []) (hm : (k, [a, b, d]) ∈ mnemonics) :
    (some k, 2) = (some ty, extra) → (ty, ((s :: n :: tl).take (1 + extra)).map toUpperAscii) ∈ mnemonics := by
  rintro ⟨⟩
  cases tl with
  | nil => exact absurd rfl ht
  | cons c tl => simpa [hs, hn] using hd ▸ hm

/-- the type found, paired with the characters matched in upper case, is a row of `mnemonics` -/
theorem isMacroEvalMnemonic_row {r : List Char} {ty : TokenType} {extra : Nat}
    (h : isMacroEvalMnemonic r = (some ty, extra)) :
    (ty, (r.take (1 + extra)).map toUpperAscii) ∈ mnemonics := by
  rcases r with _ | ⟨s, _ | ⟨n, tl⟩⟩
  · cases h
  · cases h
  revert h
  rw [isMacroEvalMnemonic]
  -- one goal per arm, with the arm's own condition: what the earlier arms excluded plays no part.
  -- `with_reducible`: comparing a condition on characters with `ite` by unfolding runs into `Nat.decEq` on literals
  repeat' (first | with_reducible refine ite_eq_imp ?_ ?_ | intro (hc : _ = true))
  all_goals first
    | (intro hv; cases (Prod.mk.inj hv).1; done)
    | (simp only [Bool.and_eq_true] at hc
       first
        | exact mnemonic_arm2 (upper_of_beq_or hc.1.1 rfl rfl) (upper_of_beq_or hc.1.2 rfl rfl) (by decide)
        | exact mnemonic_arm3 (upper_of_beq_or hc.1.1.1 rfl rfl) (upper_of_beq_or hc.1.1.2 rfl rfl)
            (upper_of_beq_or hc.2 rfl rfl) (by rintro rfl; exact absurd hc.2 (by decide)) (by decide))

end SasLexer
