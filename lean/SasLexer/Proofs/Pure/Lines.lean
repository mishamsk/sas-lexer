import SasLexer.Buffer
import SasLexer.Spec.Basic
import SasLexer.Proofs.Kernel.Pos
import SasLexer.Proofs.Pure.Resolved
/-!
# C04 (pure part): on a buffer whose line table is exact, every line/column of the resolved view
is the line/column of the text

First the line table of a prefix (`lineTab`, its last entry `LL`, `nlCount`), on which the concrete invariant of the
scanning discipline (`DInv`, `DiscSound.lean`) is built as well.

`LineWF s b`: the line table of `b` is `lineStarts s` (one entry per line feed, after the BOM),
every token is a position pair of `s` at or after the BOM whose line index is the number of line
feeds before it, and starts never decrease.  Under `LineWF` the arithmetic of
`into_resolved_token_vec` / the accessors (kept as written, with `u32` wrap/overflow semantics)
yields exactly `lineIdxOfChar + 1`, `colOfChar` and `endPos` of the specification.
-/
namespace SasLexer

def nlCount (l : List Char) : Nat := (l.filter (· == '\n')).length
def sinceNl (l : List Char) : Nat := (l.reverse.takeWhile (· != '\n')).length

theorem nlCount_snoc (l : List Char) (c : Char) :
    nlCount (l ++ [c]) = nlCount l + (if c = '\n' then 1 else 0) := by
  unfold nlCount
  by_cases h : c = '\n' <;> simp [List.filter_append, h]

theorem sinceNl_snoc (l : List Char) (c : Char) :
    sinceNl (l ++ [c]) = if c = '\n' then 0 else sinceNl l + 1 := by
  unfold sinceNl
  by_cases h : c = '\n' <;> simp [List.reverse_append, h]

theorem sinceNl_le (l : List Char) : sinceNl l ≤ l.length := by
  unfold sinceNl
  have := (List.takeWhile_sublist (l := l.reverse) (fun c : Char => c != '\n')).length_le
  simpa using this

theorem lineStartsFrom_append (a b : List Char) : ∀ (x k : Nat),
    lineStartsFrom (a ++ b) x k = lineStartsFrom a x k ++ lineStartsFrom b (x + utf8Len a) (k + a.length) := by
  induction a with
  | nil => intro x k; simp [lineStartsFrom, utf8Len]
  | cons c a ih =>
    intro x k
    simp only [List.cons_append, lineStartsFrom, ih, utf8Len, List.length_cons]
    have e1 : x + c.utf8Size + utf8Len a = x + (c.utf8Size + utf8Len a) := by omega
    have e2 : k + 1 + a.length = k + (a.length + 1) := by omega
    split <;> simp [e1, e2]

theorem lineStartsFrom_no_nl (a : List Char) (h : ∀ c ∈ a, c ≠ '\n') : ∀ (x k : Nat), lineStartsFrom a x k = [] := by
  induction a with
  | nil => intro x k; rfl
  | cons c a ih =>
    intro x k
    have hc : c ≠ '\n' := h c (by simp)
    simp only [lineStartsFrom, hc, if_false]
    exact ih (fun d hd => h d (by simp [hd])) _ _

theorem lineStartsFrom_length (l : List Char) : ∀ (b k : Nat), (lineStartsFrom l b k).length = nlCount l := by
  induction l with
  | nil => intro b k; simp [lineStartsFrom, nlCount]
  | cons c l ih =>
    intro b k
    by_cases h : c = '\n' <;> simp [lineStartsFrom, h, ih, nlCount]


/-! ## the entry in force after a prefix, and its invariant -/

def bomLine (s : List Char) : LineInfo := ⟨bomLen s, bomChars s⟩

/-- the exact line table of a consumed prefix -/
def lineTab (s pre : List Char) : List LineInfo := bomLine s :: lineStartsFrom pre 0 0

theorem lineTab_full (s : List Char) : lineTab s s = lineStarts s := rfl

theorem lineTab_append_no_nl (s pre a : List Char) (h : ∀ c ∈ a, c ≠ '\n') : lineTab s (pre ++ a) = lineTab s pre := by
  simp [lineTab, lineStartsFrom_append, lineStartsFrom_no_nl a h]

theorem lineTab_snoc_nl (s pre : List Char) :
    lineTab s (pre ++ ['\n']) = lineTab s pre ++ [⟨utf8Len (pre ++ ['\n']), (pre ++ ['\n']).length⟩] := by
  simp [lineTab, lineStartsFrom_append, lineStartsFrom, utf8Len_append, utf8Len]

theorem lineTab_length (s pre : List Char) : (lineTab s pre).length = nlCount pre + 1 := by
  simp [lineTab, lineStartsFrom_length]

theorem lineTab_prefix (s pc mid : List Char) :
    (lineTab s (pc ++ mid)).take (nlCount pc + 1) = lineTab s pc := by
  simp only [lineTab, lineStartsFrom_append, List.take_succ_cons]
  rw [List.take_append_of_le_length (by simp [lineStartsFrom_length])]
  rw [List.take_of_length_le (by simp [lineStartsFrom_length])]

/-- the line-table entry in force after the prefix `l` -/
def LL (s l : List Char) : LineInfo := (lineStartsFrom l 0 0).getLast?.getD (bomLine s)

theorem lineTab_getLast (s pre : List Char) : (lineTab s pre).getLast? = some (LL s pre) := List.getLast?_cons

theorem LL_snoc (s l : List Char) (c : Char) :
    LL s (l ++ [c]) = if c = '\n' then ⟨utf8Len l + c.utf8Size, l.length + 1⟩ else LL s l := by
  unfold LL
  rw [lineStartsFrom_append]
  split
  · subst_vars; simp [lineStartsFrom]
  · rw [lineStartsFrom_no_nl [c] (by simpa), List.append_nil]

/-- no line feed in `l` and the entry in force is the BOM line, or `l = p ++ q` with `q` the characters since the last line
feed and the entry is the position after `p` -/
def LLInv (s l : List Char) : Prop :=
  (sinceNl l = l.length ∧ LL s l = bomLine s) ∨
  (sinceNl l < l.length ∧ ∃ p q, l = p ++ q ∧ LL s l = ⟨utf8Len p, p.length⟩ ∧ q.length = sinceNl l)

theorem LLInv_rev (s : List Char) : ∀ r : List Char, LLInv s r.reverse := by
  intro r
  induction r with
  | nil => left; simp [sinceNl, LL, lineStartsFrom]
  | cons c r ih =>
    rw [List.reverse_cons]
    generalize r.reverse = l at ih
    unfold LLInv
    rw [sinceNl_snoc, LL_snoc]
    by_cases h : c = '\n'
    · right
      simp only [h, if_true, List.length_append, List.length_singleton]
      refine ⟨by omega, l ++ ['\n'], [], by simp, ?_, by simp⟩
      simp [utf8Len_append, utf8Len]
    · simp only [h, if_false, List.length_append, List.length_singleton]
      rcases ih with ⟨h1, h2⟩ | ⟨h1, p, q, hl, hll, hq⟩
      · left; exact ⟨by omega, h2⟩
      · right
        refine ⟨by omega, p, q ++ [c], by simp [hl], hll, by simp [hq]⟩

theorem LLInv_all (s l : List Char) : LLInv s l := by
  have := LLInv_rev s l.reverse
  simpa using this

/-- two position pairs of the same text are ordered alike by bytes and by chars -/
theorem posPair_lt_iff {s : List Char} {b c b' c' : Nat} (h : PosPair s b c) (h' : PosPair s b' c') :
    (b < b' ↔ c < c') ∧ (b = b' ↔ c = c') := by
  obtain ⟨p, q, hs, rfl, rfl⟩ := h
  obtain ⟨p', q', hs', rfl, rfl⟩ := h'
  have key : ∀ a : List Char, 0 < utf8Len a ↔ 0 < a.length := by
    intro a
    cases a with
    | nil => simp [utf8Len]
    | cons d ds => have := Char.utf8Size_pos d; simp [utf8Len]; omega
  -- one of the two prefixes extends the other, by some `a`
  rcases List.append_eq_append_iff.1 (hs.symm.trans hs') with ⟨a, rfl, -⟩ | ⟨a, rfl, -⟩ <;>
  · have := key a
    rw [utf8Len_append, List.length_append]
    omega

theorem posPair_le_iff {s : List Char} {b c b' c' : Nat} (h : PosPair s b c) (h' : PosPair s b' c') :
    b ≤ b' ↔ c ≤ c' := by
  have := (posPair_lt_iff h' h).1
  omega

/-- facts about the entry in force at the end of a prefix `pre` of `s` that reaches past the BOM -/
theorem LL_facts {s pre suf : List Char} (hs : s = pre ++ suf) (hb : bomChars s ≤ pre.length) :
    (LL s pre).start ≤ pre.length ∧ (LL s pre).byte ≤ utf8Len pre ∧
    PosPair s (LL s pre).byte (LL s pre).start := by
  rcases LLInv_all s pre with ⟨_, h2⟩ | ⟨_, p, q, hl, hll, _⟩
  · rw [h2]
    exact ⟨hb, (posPair_le_iff (bom_posPair s) ⟨pre, suf, hs, rfl, rfl⟩).2 hb, bom_posPair s⟩
  · rw [hll]
    refine ⟨by simp [hl], by rw [hl, utf8Len_append]; simp, ⟨p, q ++ suf, by simp [hs, hl], rfl, rfl⟩⟩


theorem lineIdxOfChar_prefix {s pre suf : List Char} (hs : s = pre ++ suf) :
    lineIdxOfChar s pre.length = nlCount pre := by
  subst hs; simp [lineIdxOfChar, nlCount]

theorem lines_lookup {s pre suf : List Char} (hs : s = pre ++ suf) :
    (lineStarts s)[nlCount pre]? = some (LL s pre) := by
  subst hs
  show (bomLine _ :: lineStartsFrom (pre ++ suf) 0 0)[nlCount pre]? = _
  rw [lineStartsFrom_append, ← List.cons_append, List.getElem?_append_left (by simp [lineStartsFrom_length]),
    ← lineStartsFrom_length pre 0 0]
  exact (List.getLast?_eq_getElem? ..).symm.trans List.getLast?_cons

theorem colOfChar_prefix {s pre suf : List Char} (hs : s = pre ++ suf) :
    colOfChar s pre.length = pre.length - (LL s pre).start := by
  have ht : s.take pre.length = pre := by subst hs; simp
  unfold colOfChar
  simp only [ht]
  show (if sinceNl pre = pre.length then sinceNl pre - bomChars s else sinceNl pre) = _
  rcases LLInv_all s pre with ⟨h1, h2⟩ | ⟨h1, p, q, hl, hll, hq⟩
  · simp [h1, h2, bomLine]
  · have : sinceNl pre ≠ pre.length := by omega
    simp only [this, if_false, hll]
    have : pre.length = p.length + q.length := by rw [hl]; simp
    omega

/-! ## the line table is sorted -/

def LineLe (x y : LineInfo) : Prop := x.byte ≤ y.byte ∧ x.start ≤ y.start

/-- the line starts found from `(b, k)` on never decrease, and none is before `(b, k)` -/
theorem lineStartsFrom_pairwise (l : List Char) :
    ∀ (b k : Nat), (⟨b, k⟩ :: lineStartsFrom l b k).Pairwise LineLe := by
  induction l with
  | nil => intro b k; simp [lineStartsFrom]
  | cons c l ih =>
    intro b k
    have h := List.pairwise_cons.1 (ih (b + c.utf8Size) (k + 1))
    have hle : ∀ e, LineLe ⟨b + c.utf8Size, k + 1⟩ e → LineLe ⟨b, k⟩ e := fun e he =>
      ⟨Nat.le_trans (Nat.le_add_right b _) he.1, Nat.le_trans (Nat.le_succ k) he.2⟩
    simp only [lineStartsFrom]
    split
    · exact List.pairwise_cons.2 ⟨fun e he => hle e ((List.mem_cons.1 he).elim
        (fun e0 => e0 ▸ ⟨Nat.le_refl _, Nat.le_refl _⟩) (h.1 e)), ih _ _⟩
    · exact List.pairwise_cons.2 ⟨fun e he => hle e (h.1 e he), h.2⟩

theorem lineStarts_pairwise (s : List Char) : (lineStarts s).Pairwise LineLe := by
  unfold lineStarts bomLen bomChars
  cases s with
  | nil => simp [lineStartsFrom]
  | cons c cs =>
    by_cases hb : c = BOM
    · -- the BOM is no line feed: the table is that of the rest, scanned from `(3, 1)`
      subst hb
      exact lineStartsFrom_pairwise cs 3 1
    · simpa [hb] using lineStartsFrom_pairwise (c :: cs) 0 0

theorem lineStarts_sorted (s : List Char) (i j : Nat) (li lj : LineInfo) (hij : i ≤ j)
    (hi : (lineStarts s)[i]? = some li) (hj : (lineStarts s)[j]? = some lj) :
    li.byte ≤ lj.byte ∧ li.start ≤ lj.start := by
  rcases Nat.lt_or_eq_of_le hij with hlt | rfl
  · obtain ⟨hil, rfl⟩ := List.getElem?_eq_some_iff.1 hi
    obtain ⟨hjl, rfl⟩ := List.getElem?_eq_some_iff.1 hj
    exact List.pairwise_iff_getElem.1 (lineStarts_pairwise s) i j hil hjl hlt
  · rw [hi] at hj
    injection hj with hj
    subst hj
    exact ⟨Nat.le_refl _, Nat.le_refl _⟩


/-! ## buffers with an exact line table -/

structure TokOK (s : List Char) (t : TokInfo) : Prop where
  pos : PosPair s t.byte t.start
  bom : bomChars s ≤ t.start
  line : t.line = lineIdxOfChar s t.start

structure LineWF (s : List Char) (b : DBuf) : Prop where
  lines : b.lines = lineStarts s
  small : (lineStarts s).length < two32
  toks : ∀ t ∈ b.toks, TokOK s t
  mono : ∀ i x y, b.toks[i]? = some x → b.toks[i + 1]? = some y → x.start ≤ y.start

/-- a token starts at the end of a prefix of the text that reaches past the BOM; its line is the number of
line feeds in that prefix, and the table's entry for it is the one in force there -/
theorem TokOK.entry {s : List Char} {t : TokInfo} (h : TokOK s t) :
    ∃ pre suf, s = pre ++ suf ∧ t.byte = utf8Len pre ∧ t.start = pre.length ∧ bomChars s ≤ pre.length ∧
      t.line = nlCount pre ∧ (lineStarts s)[t.line]? = some (LL s pre) := by
  obtain ⟨pre, suf, hs, hb, hc⟩ := h.pos
  have hl : t.line = nlCount pre := by rw [h.line, hc, lineIdxOfChar_prefix hs]
  exact ⟨pre, suf, hs, hb, hc, hc ▸ h.bom, hl, hl ▸ lines_lookup hs⟩

theorem LineWF.wf {s : List Char} {b : DBuf} (h : LineWF s b) : b.WF where
  mono := fun i x y hx hy =>
    (posPair_le_iff (h.toks x (List.mem_of_getElem? hx)).pos (h.toks y (List.mem_of_getElem? hy)).pos).2
      (h.mono i x y hx hy)
  lineOk := by
    intro t ht
    obtain ⟨pre, suf, hs, hb, hc, hbom, _, hlk⟩ := (h.toks t ht).entry
    have hf := LL_facts hs hbom
    exact ⟨LL s pre, by rw [h.lines]; exact hlk, by rw [hb]; exact hf.2.1, by rw [hc]; exact hf.1⟩
  linesSorted := by
    intro i j li lj hij hi hj
    rw [h.lines] at hi hj
    exact lineStarts_sorted s i j li lj hij hi hj
  small := by rw [h.lines]; exact h.small

theorem TokOK.col {s : List Char} {t : TokInfo} {li : LineInfo} (h : TokOK s t)
    (hli : (lineStarts s)[t.line]? = some li) : colOfChar s t.start = t.start - li.start := by
  obtain ⟨pre, suf, hs, _, hc, _, _, hlk⟩ := h.entry
  obtain rfl : LL s pre = li := Option.some.inj (hlk.symm.trans hli)
  rw [hc]
  exact colOfChar_prefix hs

/-- the char before a token that starts after the BOM is on the token's line, unless it is the line feed
that starts this line: exactly then the line's entry is at the token itself (`up = false`) -/
theorem TokOK.before {s : List Char} {t : TokInfo} {li eli : LineInfo} {up : Bool} (h : TokOK s t)
    (hb : bomChars s < t.start) (hli : (lineStarts s)[t.line]? = some li) (hup : up = true ↔ t.byte > li.byte)
    (heli : (lineStarts s)[if up then t.line else t.line - 1]? = some eli) :
    lineIdxOfChar s (t.start - 1) = (if up then t.line else t.line - 1) ∧
      colOfChar s (t.start - 1) + 1 = t.start - eli.start := by
  obtain ⟨pre, suf, hs, hbt, hct, _, hl, hlk⟩ := h.entry
  obtain rfl | ⟨l, c, hpre⟩ := List.eq_nil_or_concat pre
  · exact absurd hb (by simp [hct])
  rw [List.concat_eq_append] at hpre
  subst hpre
  obtain rfl : LL s (l ++ [c]) = li := Option.some.inj (hlk.symm.trans hli)
  rw [List.length_append, List.length_singleton] at hct
  have hsL : s = l ++ ([c] ++ suf) := by simp [hs]
  have hfL := LL_facts hsL (Nat.le_of_lt_succ (show bomChars s < l.length + 1 from hct ▸ hb))
  have hLL := LL_snoc s l c
  have hcnt := nlCount_snoc l c
  have hcol : l.length - (LL s l).start + 1 = t.start - (LL s l).start := by
    rw [hct]
    exact (Nat.sub_add_comm hfL.1).symm
  rw [show t.start - 1 = l.length by rw [hct]; rfl, lineIdxOfChar_prefix hsL, colOfChar_prefix hsL]
  by_cases hnl : c = '\n'
  · rw [if_pos hnl] at hLL hcnt
    have hu : up = false := by
      cases up
      · rfl
      · have := hup.1 rfl
        rw [hLL, hbt, utf8Len_append] at this
        simp [utf8Len] at this
    subst hu
    rw [if_neg (by decide)] at heli ⊢
    rw [show t.line - 1 = nlCount l by rw [hl, hcnt]; rfl] at heli ⊢
    obtain rfl : LL s l = eli := Option.some.inj ((lines_lookup hsL).symm.trans heli)
    exact ⟨rfl, hcol⟩
  · rw [if_neg hnl] at hLL hcnt
    have hu : up = true :=
      hup.2 (by rw [hLL]; exact (posPair_lt_iff hfL.2.2 h.pos).1.2 (hct ▸ Nat.lt_succ_of_le hfL.1))
    subst hu
    rw [if_pos rfl] at heli ⊢
    obtain rfl : LL s (l ++ [c]) = eli := Option.some.inj (hlk.symm.trans heli)
    rw [hLL]
    exact ⟨by rw [hl, hcnt]; rfl, hcol⟩

/-- the row is what the specification computes for the chars `[r.start, r.stop)` -/
def SpecRow (s : List Char) (r : DBuf.Row) : Prop :=
  r.line = lineIdxOfChar s r.start + 1 ∧ r.col = colOfChar s r.start ∧
  (r.endLine, r.endCol) = Spec.endPos s r.start r.stop

theorem lastRow_spec {s : List Char} {cur : TokInfo} {cli : LineInfo} (hc : TokOK s cur)
    (hcli : (lineStarts s)[cur.line]? = some cli) (i : Nat) : SpecRow s (DBuf.lastRow i cur cli) := by
  unfold SpecRow DBuf.lastRow Spec.endPos
  simp only [Nat.le_refl, if_true]
  rw [hc.col hcli, ← hc.line]
  exact ⟨rfl, rfl, rfl⟩

theorem pairRow_spec {s : List Char} {b : DBuf} {cur next : TokInfo} {cli nli eli : LineInfo}
    (hl : b.lines = lineStarts s) (hc : TokOK s cur) (hn : TokOK s next) (hle : cur.start ≤ next.start)
    (hp : b.PairLines cur next cli nli eli) (i : Nat) : SpecRow s (DBuf.pairRow i cur next cli nli eli) := by
  have hcl := hp.cl
  have hnl := hp.nl
  have hel := hp.el
  rw [hl] at hcl hnl hel
  have hord := posPair_lt_iff hc.pos hn.pos
  unfold SpecRow DBuf.pairRow Spec.endPos
  simp only []
  rw [hc.col hcl, ← hc.line]
  refine ⟨rfl, rfl, ?_⟩
  rcases Nat.lt_or_eq_of_le hle with hlt | heq
  · -- non-empty token: its last char is the one before `next`
    have hne : (cur.byte == next.byte) = false := by
      have := hord.1.2 hlt
      simp only [beq_eq_false_iff_ne, ne_eq]; omega
    have hb := hc.bom
    obtain ⟨h1, h2⟩ := hn.before (up := next.byte > nli.byte || cur.byte == next.byte) (by omega) hnl
      (by simp [hne]) hel
    rw [if_neg (by omega), h1, h2]
    rfl
  · -- empty token: it ends where it starts, which is where `next` starts
    have hbe : cur.byte = next.byte := hord.2.2 heq
    have hline : next.line = cur.line := by rw [hn.line, hc.line, heq]
    have hi : DBuf.endIdx cur next nli = cur.line := by simp [DBuf.endIdx, hbe, hline]
    rw [hi] at hel
    obtain rfl : cli = eli := Option.some.inj (hcl.symm.trans hel)
    rw [if_pos (by omega), hi, heq]


/-- **C04, pure theorem**: on a buffer with an exact line table the bulk resolved view succeeds (in
both arithmetic profiles), has one row per token, and every row carries the line, column, end line
and end column that the specification computes from the text. -/
theorem DBuf.resolved_lines_exact (cfg : Cfg) (s : List Char) (b : DBuf) (h : LineWF s b) (hne : b.toks ≠ []) :
    ∃ rows, b.resolved cfg = .ok rows ∧ rows.length = b.toks.length ∧
      ∀ (k : Nat) (r : DBuf.Row), rows[k]? = some r → SpecRow s r := by
  obtain ⟨rows, hres, hlen, hrows⟩ := DBuf.resolved_eq_accessors cfg b h.wf hne
  refine ⟨rows, hres, hlen, ?_⟩
  intro k r hr
  have hacc := hrows k r hr
  have hk : k < b.toks.length := by rw [← hlen]; exact (List.getElem?_eq_some_iff.1 hr).1
  have hcur : b.toks[k]? = some b.toks[k] := List.getElem?_eq_getElem hk
  have hcok := h.toks _ (List.mem_of_getElem? hcur)
  by_cases hlast : k + 1 = b.toks.length
  · obtain ⟨cli, hcli, _, hcs⟩ := h.wf.lineOk _ (List.mem_of_getElem? hcur)
    rw [DBuf.accessorRow_last h.wf hcur hlast hcli hcs] at hacc
    injection hacc with hacc
    rw [← hacc]
    exact lastRow_spec hcok (by rw [← h.lines]; exact hcli) k
  · have hk1 : k + 1 < b.toks.length := by omega
    have hnext : b.toks[k + 1]? = some b.toks[k + 1] := List.getElem?_eq_getElem hk1
    obtain ⟨cli, nli, eli, hp⟩ := DBuf.pair_facts h.wf hcur hnext
    rw [DBuf.accessorRow_pair h.wf hcur hnext hp] at hacc
    injection hacc with hacc
    rw [← hacc]
    exact pairRow_spec h.lines hcok (h.toks _ (List.mem_of_getElem? hnext)) (h.mono k _ _ hcur hnext) hp k

end SasLexer
