import SasLexer.Buffer
/-!
# C05 (pure part): on every well-formed buffer the bulk resolved view equals the accessors

`DBuf.WF` is what the model theorems provide of the lexer's buffers (`LineWF.wf`): start offsets never
decrease, every token's line exists and starts at or before the token, line starts sorted.
Under `WF` the two different end-line formulas of `buffer.rs` (kept as written in the model,
including `u32` arithmetic with its overflow behaviour in both profiles) coincide and no
subtraction underflows.
-/
namespace SasLexer
namespace DBuf

structure WF (b : DBuf) : Prop where
  mono : ∀ i x y, b.toks[i]? = some x → b.toks[i + 1]? = some y → x.byte ≤ y.byte
  lineOk : ∀ t ∈ b.toks, ∃ li, b.lines[t.line]? = some li ∧ li.byte ≤ t.byte ∧ li.start ≤ t.start
  linesSorted : ∀ (i j : Nat) (li lj : LineInfo), i ≤ j → b.lines[i]? = some li → b.lines[j]? = some lj →
      li.byte ≤ lj.byte ∧ li.start ≤ lj.start
  small : b.lines.length < two32

variable {cfg : Cfg} {b : DBuf}

theorem addU32_ok {a c : Nat} (h : a + c < two32) : addU32 cfg a c = .ok (a + c) := by
  simp [addU32, h]; rfl

theorem subU32_ok {a c : Nat} (h : c ≤ a) : subU32 cfg a c = .ok (a - c) := by
  simp [subU32, h]; rfl

theorem line_lt (h : b.WF) {t : TokInfo} (ht : t ∈ b.toks) : t.line + 1 < two32 := by
  obtain ⟨li, hli, _, _⟩ := h.lineOk t ht
  have := (List.getElem?_eq_some_iff.1 hli).1
  have := h.small
  omega

/-- the row both views must produce for a token `cur` at index `i` that is followed by `next` -/
def expectedRow (b : DBuf) (i : Nat) (cur next : TokInfo) : Option Row := do
  let cli ← b.lines[cur.line]?
  let nli ← b.lines[next.line]?
  let up := next.byte > nli.byte || cur.byte == next.byte
  let endIdx := if up then next.line else next.line - 1
  let eli ← b.lines[endIdx]?
  pure { chan := cur.chan, ty := cur.ty, index := i, start := cur.start, stop := next.start,
         line := cur.line + 1, col := cur.start - cli.start, endLine := endIdx + 1,
         endCol := next.start - eli.start, payload := cur.payload }

/-- the row for the last token -/
def expectedLast (b : DBuf) (i : Nat) (cur : TokInfo) : Option Row := do
  let cli ← b.lines[cur.line]?
  pure { chan := cur.chan, ty := cur.ty, index := i, start := cur.start, stop := cur.start,
         line := cur.line + 1, col := cur.start - cli.start, endLine := cur.line + 1,
         endCol := cur.start - cli.start, payload := cur.payload }


/-- index in the line table of the line on which `cur` ends when `next` follows it: the line of
`next`, or the one before it if `next` starts that line and `cur` is not empty -/
def endIdx (cur next : TokInfo) (nli : LineInfo) : Nat :=
  if next.byte > nli.byte || cur.byte == next.byte then next.line else next.line - 1

/-- the line entries from which the row of `cur`, followed by `next`, is computed -/
structure PairLines (b : DBuf) (cur next : TokInfo) (cli nli eli : LineInfo) : Prop where
  cl : b.lines[cur.line]? = some cli
  nl : b.lines[next.line]? = some nli
  el : b.lines[endIdx cur next nli]? = some eli
  cs : cli.start ≤ cur.start
  es : eli.start ≤ next.start
  nb : nli.byte ≤ next.byte
  mono : cur.byte ≤ next.byte
  pos : (next.byte > nli.byte || cur.byte == next.byte) = false → 1 ≤ next.line

theorem pair_facts (h : b.WF) {i : Nat} {cur next : TokInfo}
    (hc : b.toks[i]? = some cur) (hn : b.toks[i + 1]? = some next) :
    ∃ cli nli eli, PairLines b cur next cli nli eli := by
  obtain ⟨cli, hcli, hcb, hcs⟩ := h.lineOk cur (List.mem_of_getElem? hc)
  obtain ⟨nli, hnli, hnb, hns⟩ := h.lineOk next (List.mem_of_getElem? hn)
  have hmono := h.mono i cur next hc hn
  have hle : endIdx cur next nli ≤ next.line := by unfold endIdx; split <;> omega
  have heli := List.getElem?_eq_getElem (Nat.lt_of_le_of_lt hle (List.getElem?_eq_some_iff.1 hnli).1)
  have hes := (h.linesSorted _ _ _ nli hle heli hnli).2
  refine ⟨cli, nli, _, hcli, hnli, heli, hcs, by omega, hnb, hmono, fun hup => ?_⟩
  -- next.line ≥ 1: otherwise lines[0].byte ≤ lines[cur.line].byte ≤ cur.byte < next.byte = lines[0].byte
  obtain ⟨h1, h2⟩ : ¬ next.byte > nli.byte ∧ cur.byte ≠ next.byte := by simpa using hup
  rcases Nat.eq_zero_or_pos next.line with h0 | h0
  · have := (h.linesSorted next.line cur.line nli cli (by omega) hnli hcli).1
    omega
  · exact h0

/-- the accessor adds to the line of `next`, the bulk view subtracts from it; under `PairLines` neither
wraps and both name line `endIdx` -/
theorem endIdx_arith (h : b.WF) {cur next : TokInfo} {cli nli eli : LineInfo} (hn : next ∈ b.toks)
    (hp : PairLines b cur next cli nli eli) :
    addU32 cfg next.line (if (next.byte > nli.byte || cur.byte == next.byte) then 1 else 0)
        = .ok (endIdx cur next nli + 1) ∧
      subU32 cfg next.line (if (next.byte == nli.byte && decide (cur.byte < next.byte)) then 1 else 0)
        = .ok (endIdx cur next nli) ∧
      endIdx cur next nli + 1 < two32 := by
  have hl := line_lt h hn
  -- `next` starts at or after its line and after `cur`: the bulk view's test is the negation of the accessor's
  have hdn : (next.byte == nli.byte && decide (cur.byte < next.byte)) =
      !(next.byte > nli.byte || cur.byte == next.byte) := by
    have := hp.nb
    have := hp.mono
    rw [Bool.eq_iff_iff]
    simp
    omega
  rw [hdn]
  unfold endIdx
  cases hup : (next.byte > nli.byte || cur.byte == next.byte)
  · have := hp.pos hup
    simp only [Bool.not_false, Bool.false_eq_true, if_false, if_true]
    exact ⟨by rw [addU32_ok (by omega)]; congr 1; omega, subU32_ok this, by omega⟩
  · simp only [Bool.not_true, Bool.false_eq_true, if_false, if_true]
    exact ⟨addU32_ok hl, subU32_ok (Nat.zero_le _), hl⟩

/-! what each accessor returns for a token that exists -/

theorem tok_ok {i : Nat} {t : TokInfo} (ht : b.toks[i]? = some t) : b.tok i = .ok t := by
  simp [DBuf.tok, ht]; rfl

theorem startLine_ok (h : b.WF) {i : Nat} {t : TokInfo} (ht : b.toks[i]? = some t) :
    b.startLine cfg i = .ok (t.line + 1) := by
  simp [DBuf.startLine, tok_ok ht, bind, Except.bind, addU32_ok (cfg := cfg) (line_lt h (List.mem_of_getElem? ht))]

theorem startColumn_ok {i : Nat} {t : TokInfo} {li : LineInfo} (ht : b.toks[i]? = some t)
    (hli : b.lines[t.line]? = some li) (hs : li.start ≤ t.start) :
    b.startColumn cfg i = .ok (t.start - li.start) := by
  simp [DBuf.startColumn, tok_ok ht, bind, Except.bind, hli, subU32_ok (cfg := cfg) hs]

theorem endColumn_ok {i e l : Nat} {li : LineInfo} (he : b.stop i = .ok e) (hl : b.endLine cfg i = .ok (l + 1))
    (hli : b.lines[l]? = some li) (hs : li.start ≤ e) : b.endColumn cfg i = .ok (e - li.start) := by
  simp only [DBuf.endColumn, he, hl, bind, Except.bind]
  rw [subU32_ok (cfg := cfg) (Nat.le_add_left 1 _)]
  simp only [Nat.add_sub_cancel, hli]
  exact subU32_ok (cfg := cfg) hs

/-- the common row for a token followed by another one -/
def pairRow (i : Nat) (cur next : TokInfo) (cli nli eli : LineInfo) : Row :=
  { chan := cur.chan, ty := cur.ty, index := i, start := cur.start, stop := next.start,
    line := cur.line + 1, col := cur.start - cli.start, endLine := endIdx cur next nli + 1,
    endCol := next.start - eli.start, payload := cur.payload }

theorem accessorRow_pair (h : b.WF) {i : Nat} {cur next : TokInfo} {cli nli eli : LineInfo}
    (hc : b.toks[i]? = some cur) (hn : b.toks[i + 1]? = some next) (hp : PairLines b cur next cli nli eli) :
    b.accessorRow cfg i = .ok (pairRow i cur next cli nli eli) := by
  have hlen : i + 1 < b.toks.length := (List.getElem?_eq_some_iff.1 hn).1
  have hstop : b.stop i = .ok next.start := by simp [DBuf.stop, hlen, tok_ok hn, bind, Except.bind]; rfl
  have hel : b.endLine cfg i = .ok (endIdx cur next nli + 1) := by
    simp only [DBuf.endLine, Nat.ne_of_lt hlen, if_false, tok_ok hn, bind, Except.bind, hp.nl, DBuf.startByte,
      DBuf.endByte, tok_ok hc, hlen, if_true, pure, Except.pure]
    exact (endIdx_arith h (List.mem_of_getElem? hn) hp).1
  simp only [DBuf.accessorRow, DBuf.start, tok_ok hc, hstop, startLine_ok h hc, startColumn_ok hc hp.cl hp.cs, hel,
    endColumn_ok hstop hel hp.el hp.es, bind, Except.bind, pure, Except.pure, pairRow]


def lastRow (i : Nat) (cur : TokInfo) (cli : LineInfo) : Row :=
  { chan := cur.chan, ty := cur.ty, index := i, start := cur.start, stop := cur.start,
    line := cur.line + 1, col := cur.start - cli.start, endLine := cur.line + 1,
    endCol := cur.start - cli.start, payload := cur.payload }

theorem accessorRow_last (h : b.WF) {i : Nat} {cur : TokInfo} {cli : LineInfo}
    (hc : b.toks[i]? = some cur) (hlast : i + 1 = b.toks.length)
    (hcli : b.lines[cur.line]? = some cli) (hcs : cli.start ≤ cur.start) :
    b.accessorRow cfg i = .ok (lastRow i cur cli) := by
  have hstop : b.stop i = .ok cur.start := by
    simp [DBuf.stop, Nat.lt_irrefl, hlast, tok_ok hc, bind, Except.bind]; rfl
  have hel : b.endLine cfg i = .ok (cur.line + 1) := by
    simp only [DBuf.endLine, hlast, if_true, bind, Except.bind]
    exact startLine_ok h hc
  simp only [DBuf.accessorRow, DBuf.start, tok_ok hc, hstop, startLine_ok h hc, startColumn_ok hc hcli hcs, hel,
    endColumn_ok hstop hel hcli hcs, bind, Except.bind, pure, Except.pure, lastRow]

/-- a statement about every entry of `x :: xs` and its index, from the head and from the tail -/
theorem forall_getElem?_cons {α : Type} {P : Nat → α → Prop} {x : α} {xs : List α} (h0 : P 0 x)
    (hs : ∀ k r, xs[k]? = some r → P (k + 1) r) : ∀ k r, (x :: xs)[k]? = some r → P k r
  | 0, r, hr => by
    simp only [List.getElem?_cons_zero, Option.some.injEq] at hr
    exact hr ▸ h0
  | k + 1, r, hr => hs k r (by simpa using hr)

/-- the loop of `into_resolved_token_vec` produces, row by row, what the accessors return -/
theorem resolvedLoop_eq (h : b.WF) :
    ∀ (rest : List TokInfo) (cur : TokInfo) (idx : Nat),
      (∀ k, (cur :: rest)[k]? = b.toks[idx + k]?) → idx + rest.length + 1 = b.toks.length →
      ∃ rows, b.resolvedLoop cfg cur rest idx = .ok rows ∧ rows.length = rest.length + 1 ∧
        ∀ k r, rows[k]? = some r → b.accessorRow cfg (idx + k) = .ok r
  | [], cur, idx, hk, hlen => by
    have hc : b.toks[idx]? = some cur := by have := hk 0; simpa using this.symm
    obtain ⟨cli, hcli, _, hcs⟩ := h.lineOk cur (List.mem_of_getElem? hc)
    have hcl := line_lt h (List.mem_of_getElem? hc)
    refine ⟨[lastRow idx cur cli], ?_, rfl, ?_⟩
    · simp only [DBuf.resolvedLoop, DBuf.lineIdx, hcli, bind, Except.bind, pure, Except.pure,
        subU32_ok (cfg := cfg) hcs, addU32_ok (cfg := cfg) hcl, lastRow]
    · exact forall_getElem?_cons (accessorRow_last h hc (by simpa using hlen) hcli hcs) (fun k r hr => by simp at hr)
  | next :: rest, cur, idx, hk, hlen => by
    have hc : b.toks[idx]? = some cur := by have := hk 0; simpa using this.symm
    have hn : b.toks[idx + 1]? = some next := by have := hk 1; simpa using this.symm
    obtain ⟨cli, nli, eli, hp⟩ := pair_facts h hc hn
    have hcl := line_lt h (List.mem_of_getElem? hc)
    obtain ⟨-, hsub, hel⟩ := endIdx_arith (cfg := cfg) h (List.mem_of_getElem? hn) hp
    have ih := resolvedLoop_eq h rest next (idx + 1)
      (by intro k; have := hk (k + 1); simpa [Nat.add_assoc, Nat.add_comm 1 k] using this)
      (by simp only [List.length_cons] at hlen; omega)
    obtain ⟨rows, hrows, hrl, hrk⟩ := ih
    refine ⟨pairRow idx cur next cli nli eli :: rows, ?_, by simp [hrl], ?_⟩
    · simp only [DBuf.resolvedLoop, DBuf.lineIdx, hp.nl, hp.cl, hp.el, bind, Except.bind, pure, Except.pure, hsub,
        subU32_ok (cfg := cfg) hp.cs, subU32_ok (cfg := cfg) hp.es, addU32_ok (cfg := cfg) hcl,
        addU32_ok (cfg := cfg) hel, hrows, pairRow]
    · refine forall_getElem?_cons (accessorRow_pair h hc hn hp) (fun k r hr => ?_)
      have := hrk k r hr
      rwa [Nat.add_assoc, Nat.add_comm 1 k] at this

/-- **C05, pure theorem**: for every well-formed buffer the bulk view succeeds, has one row per
token and row `k` is what the per-token accessors return for token `k` — in both arithmetic
profiles. -/
theorem resolved_eq_accessors (cfg : Cfg) (b : DBuf) (h : b.WF) (hne : b.toks ≠ []) :
    ∃ rows, b.resolved cfg = .ok rows ∧ rows.length = b.toks.length ∧
      ∀ k r, rows[k]? = some r → b.accessorRow cfg k = .ok r := by
  cases ht : b.toks with
  | nil => exact absurd ht hne
  | cons t ts =>
    obtain ⟨rows, h1, h2, h3⟩ := resolvedLoop_eq (cfg := cfg) h ts t 0 (by intro k; simp [ht]) (by simp [ht])
    refine ⟨rows, ?_, by simp [h2], ?_⟩
    · simp only [DBuf.resolved, ht]; exact h1
    · intro k r hr; have := h3 k r hr; simpa using this

end DBuf
end SasLexer
