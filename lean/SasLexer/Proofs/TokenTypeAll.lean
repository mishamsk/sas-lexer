import SasLexer.Gen.TokenType
/-!
# `TokenType.all` lists every token type, `toNat` numbers the list

A statement about every token type is decided by one kernel evaluation over the list `TokenType.all`
(`TokenType.mem_all` carries it over to every `t : TokenType`) instead of by one goal per constructor (`ctorIdx_lt` apart).
-/
namespace SasLexer
namespace TokenType

/-- the number of constructors (here and in `all_length`: the two places to follow a change of the generated enum) -/
theorem ctorIdx_lt (t : TokenType) : t.ctorIdx < 288 := by
  cases t <;> decide

theorem all_length : all.length = 288 := by
  decide +kernel

theorem all_eq_map_ofNat : all = (List.range all.length).map ofNat := by
  decide +kernel

/-- every constructor of `TokenType` is listed in `TokenType.all`, so the table theorems that sweep over
`TokenType.all` quantify over all token types -/
theorem mem_all (t : TokenType) : t ∈ all := by
  rw [all_eq_map_ofNat, List.mem_map]
  exact ⟨t.ctorIdx, List.mem_range.2 (all_length ▸ ctorIdx_lt t), ofNat_ctorIdx t⟩

theorem map_toNat_all : all.map toNat = List.range all.length := by
  decide +kernel

end TokenType

/-- in a list without repeated `f`-values, the search for the `f`-value of a member finds that member -/
theorem find?_beq_of_nodup_map {α β : Type} [BEq β] [LawfulBEq β] (f : α → β) :
    ∀ {l : List α}, (l.map f).Nodup → ∀ {a : α}, a ∈ l → l.find? (fun x => f x == f a) = some a
  | x :: l, h, a, ha => by
    rw [List.map_cons, List.nodup_cons] at h
    rw [List.find?_cons]
    cases hb : f x == f a
    · have : a ∈ l := (List.mem_cons.1 ha).resolve_left fun e => by simp [e] at hb
      exact find?_beq_of_nodup_map f h.2 this
    · rcases List.mem_cons.1 ha with rfl | ha
      · rfl
      · exact absurd (eq_of_beq hb ▸ List.mem_map_of_mem ha) h.1

theorem TokenType.ofNat?_toNat (t : TokenType) : TokenType.ofNat? t.toNat = some t :=
  find?_beq_of_nodup_map TokenType.toNat (TokenType.map_toNat_all ▸ List.nodup_range) (TokenType.mem_all t)

end SasLexer
