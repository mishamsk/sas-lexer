import SasLexer.MsgpackDefs
/-!
# Theorems about the msgpack codec and the binding's wire contract
(the executable definitions are in `MsgpackDefs.lean`, so that the compiled checkers can still be built when a
theorem about regenerated tables no longer checks)
-/
namespace SasLexer
namespace Msgpack

/-- known encodings (msgpack spec) -/
example : encode (.int 127) = [0x7f] ∧ encode (.int 128) = [0xcc, 0x80] ∧ encode (.int 300) = [0xcd, 0x01, 0x2c]
    ∧ encode (.int 65536) = [0xce, 0, 1, 0, 0] ∧ encode (.int 4294967296) = [0xcf, 0, 0, 0, 1, 0, 0, 0, 0]
    ∧ encode (.int (-1)) = [0xff] ∧ encode (.int (-32)) = [0xe0] ∧ encode (.int (-33)) = [0xd0, 0xdf]
    ∧ encode (.int (-129)) = [0xd1, 0xff, 0x7f]
    ∧ encode (.arr [.int 0, .int 3]) = [0x92, 0, 3] ∧ encode (.bin [0x61, 0x22, 0x62]) = [0xc4, 3, 0x61, 0x22, 0x62]
    ∧ encode (.f64 0x3ff8000000000000) = [0xcb, 0x3f, 0xf8, 0, 0, 0, 0, 0, 0]
    ∧ encode (.arr [.arr [], .arr [], .bin []]) = [0x93, 0x90, 0x90, 0xc4, 0] := by decide +kernel

/-! ## round trip: `decode (encode v ++ rest) = some (v, rest)` -/

theorem be_length (k n : Nat) : (be k n).length = k := by
  induction k with
  | zero => rfl
  | succ k ih => simp [be, ih]

theorem readBE_be (k n : Nat) (rest : List UInt8) (acc : Nat) :
    readBE k (be k n ++ rest) acc = some (acc * 256 ^ k + n % 256 ^ k, rest) := by
  induction k generalizing acc with
  | zero => simp [be, readBE, Nat.mod_one]
  | succ k ih =>
    simp only [be, List.cons_append, readBE, ih]
    congr 2
    have h1 : (UInt8.ofNat (n / 256 ^ k % 256)).toNat = n / 256 ^ k % 256 := by
      simp [UInt8.toNat_ofNat']
    rw [h1, Nat.pow_succ, Nat.mod_mul]
    grind

theorem takeN_append (s rest : List UInt8) : takeN s.length (s ++ rest) = some (s, rest) := by
  simp [takeN]

theorem encode_ne_nil : ∀ v : MP, 1 ≤ (encode v).length := by
  intro v
  cases v with
  | nil => simp [encode]
  | bool b => cases b <;> simp [encode]
  | int i => simp only [encode, encInt]; split <;> (try split) <;> (try split) <;> (try split) <;> (try split) <;> simp
  | f64 b => simp [encode]
  | bin bs => simp only [encode, encBinLen]; split <;> (try split) <;> simp
  | str bs => simp only [encode, encStrLen]; split <;> (try split) <;> (try split) <;> simp
  | arr xs => simp only [encode, encArrLen]; split <;> (try split) <;> simp


theorem encArrLen_pos (n : Nat) : 1 ≤ (encArrLen n).length := by
  simp only [encArrLen]; split <;> (try split) <;> simp

mutual
theorem depth_le : ∀ v : MP, depth v ≤ (encode v).length
  | .arr xs => by
    have := depthList_le xs
    have := encArrLen_pos xs.length
    simp only [depth, encode, List.length_append]; omega
  | .nil | .bool _ | .int _ | .f64 _ | .bin _ | .str _ => encode_ne_nil _
theorem depthList_le : ∀ xs : List MP, depthList xs ≤ (encodeList xs).length
  | [] => by simp [depthList]
  | x :: xs => by
    have := depth_le x
    have := depthList_le xs
    simp only [depthList, encodeList, List.length_append]; omega
end
theorem ofNat_toNat (n : Nat) (h : n < 256) : (UInt8.ofNat n).toNat = n := by
  simp [UInt8.toNat_ofNat']; omega

theorem uintOf_be (k n : Nat) (rest : List UInt8) (h : n < 256 ^ k) :
    uintOf k (be k n ++ rest) = some (.int n, rest) := by
  simp [uintOf, wrap, readBE_be, Nat.mod_eq_of_lt h]

theorem sintOf_be (k n : Nat) (rest : List UInt8) (h : n < 256 ^ k) :
    sintOf k (be k n ++ rest) = some (.int (signed (8 * k) n), rest) := by
  simp [sintOf, wrap, readBE_be, Nat.mod_eq_of_lt h]

theorem sized_be (k : Nat) (mk : List UInt8 → MP) (s rest : List UInt8) (h : s.length < 256 ^ k) :
    sized k mk (be k s.length ++ (s ++ rest)) = some (mk s, rest) := by
  simp [sized, wrap, readBE_be, Nat.mod_eq_of_lt h, takeN_append]

/- `decodeF` on each leading byte, so that the round-trip proofs rewrite with the arm they need and never unfold the
dispatch on the byte -/
theorem hd_c0 (f r) : decodeF (f + 1) (0xc0 :: r) = some (.nil, r) := rfl
theorem hd_c2 (f r) : decodeF (f + 1) (0xc2 :: r) = some (.bool false, r) := rfl
theorem hd_c3 (f r) : decodeF (f + 1) (0xc3 :: r) = some (.bool true, r) := rfl
theorem hd_c4 (f r) : decodeF (f + 1) (0xc4 :: r) = sized 1 .bin r := rfl
theorem hd_c5 (f r) : decodeF (f + 1) (0xc5 :: r) = sized 2 .bin r := rfl
theorem hd_c6 (f r) : decodeF (f + 1) (0xc6 :: r) = sized 4 .bin r := rfl
theorem hd_cb (f r) : decodeF (f + 1) (0xcb :: r) =
    wrap (fun v : Nat => .f64 (UInt64.ofNat v)) (readBE 8 r 0) := rfl
theorem hd_cc (f r) : decodeF (f + 1) (0xcc :: r) = uintOf 1 r := rfl
theorem hd_cd (f r) : decodeF (f + 1) (0xcd :: r) = uintOf 2 r := rfl
theorem hd_ce (f r) : decodeF (f + 1) (0xce :: r) = uintOf 4 r := rfl
theorem hd_cf (f r) : decodeF (f + 1) (0xcf :: r) = uintOf 8 r := rfl
theorem hd_d0 (f r) : decodeF (f + 1) (0xd0 :: r) = sintOf 1 r := rfl
theorem hd_d1 (f r) : decodeF (f + 1) (0xd1 :: r) = sintOf 2 r := rfl
theorem hd_d2 (f r) : decodeF (f + 1) (0xd2 :: r) = sintOf 4 r := rfl
theorem hd_d3 (f r) : decodeF (f + 1) (0xd3 :: r) = sintOf 8 r := rfl
theorem hd_d9 (f r) : decodeF (f + 1) (0xd9 :: r) = sized 1 .str r := rfl
theorem hd_da (f r) : decodeF (f + 1) (0xda :: r) = sized 2 .str r := rfl
theorem hd_db (f r) : decodeF (f + 1) (0xdb :: r) = sized 4 .str r := rfl
theorem hd_dc (f r) : decodeF (f + 1) (0xdc :: r) = arrN (decodeF f) 2 r := rfl
theorem hd_dd (f r) : decodeF (f + 1) (0xdd :: r) = arrN (decodeF f) 4 r := rfl

theorem hd_posfix (f : Nat) (n : Nat) (r) (h : n < 128) :
    decodeF (f + 1) (UInt8.ofNat n :: r) = some (.int n, r) := by
  simp only [decodeF, ofNat_toNat n (by omega)]
  simp [h]
theorem hd_negfix (f : Nat) (n : Nat) (r) (h : 224 ≤ n) (h2 : n < 256) :
    decodeF (f + 1) (UInt8.ofNat n :: r) = some (.int ((n : Int) - 256), r) := by
  simp only [decodeF, ofNat_toNat n h2]
  have e : ∀ k : Nat, k < 224 → ¬ n = k := by omega
  have e' : ∀ k : Nat, k ≤ 224 → ¬ n < k := by omega
  simp [e, e', h]
theorem hd_fixarr (f : Nat) (n : Nat) (r) (h : n < 16) :
    decodeF (f + 1) (UInt8.ofNat (0x90 + n) :: r) = wrap .arr (decodeN (decodeF f) n r []) := by
  simp only [decodeF, ofNat_toNat (0x90 + n) (by omega)]
  rw [if_neg (by omega), if_neg (by omega), if_pos (by omega)]
  simp
theorem hd_fixstr (f : Nat) (n : Nat) (r) (h : n < 32) :
    decodeF (f + 1) (UInt8.ofNat (0xa0 + n) :: r) =
      wrap .str (takeN n r) := by
  simp only [decodeF, ofNat_toNat (0xa0 + n) (by omega)]
  rw [if_neg (by omega), if_neg (by omega), if_neg (by omega), if_pos (by omega)]
  simp

theorem encInt_nat (n : Nat) : encInt (n : Int) =
    if n < 128 then [UInt8.ofNat n]
    else if n < 256 then 0xcc :: be 1 n
    else if n < 65536 then 0xcd :: be 2 n
    else if n < 4294967296 then 0xce :: be 4 n
    else 0xcf :: be 8 n := by
  simp [encInt]

theorem decode_int (i : Int) (h : (MP.int i).WF) (f : Nat) (rest : List UInt8) :
    decodeF (f + 1) (encode (.int i) ++ rest) = some (.int i, rest) := by
  simp only [MP.WF] at h
  simp only [encode]
  cases i with
  | ofNat n =>
    rw [Int.ofNat_eq_natCast] at *
    rw [encInt_nat]
    split
    · simp [hd_posfix, *]
    · split
      · simp [hd_cc, uintOf_be, *]
      · split
        · simp [hd_cd, uintOf_be, *]
        · split
          · simp [hd_ce, uintOf_be, *]
          · simp only [List.cons_append, hd_cf]
            rw [uintOf_be]
            simp; omega
  | negSucc m =>
    have hneg : ¬ (0 : Int) ≤ Int.negSucc m := by simp
    generalize Int.negSucc m = i at *
    simp only [encInt, hneg, if_false]
    split
    · have e : ∃ n : Nat, (256 + i).toNat = n ∧ 224 ≤ n ∧ n < 256 ∧ (n : Int) - 256 = i := ⟨_, rfl, by omega, by omega, by omega⟩
      obtain ⟨n, hn, h1, h2, h3⟩ := e
      rw [hn, List.cons_append, List.nil_append, hd_negfix f n rest h1 h2, h3]
    · split
      · simp only [List.cons_append, hd_d0]
        rw [sintOf_be _ _ _ (by simp; omega)]
        simp [signed]; omega
      · split
        · simp only [List.cons_append, hd_d1]
          rw [sintOf_be _ _ _ (by simp; omega)]
          simp [signed]; omega
        · split
          · simp only [List.cons_append, hd_d2]
            rw [sintOf_be _ _ _ (by simp; omega)]
            simp [signed]; omega
          · simp only [List.cons_append, hd_d3]
            rw [sintOf_be _ _ _ (by simp; omega)]
            simp [signed]; omega

theorem decode_f64 (b : UInt64) (f : Nat) (rest : List UInt8) :
    decodeF (f + 1) (encode (.f64 b) ++ rest) = some (.f64 b, rest) := by
  have hb : b.toNat < 256 ^ 8 := by have := b.toNat_lt; simpa using this
  simp [encode, hd_cb, readBE_be, wrap, Nat.mod_eq_of_lt hb]

theorem decode_bin (bs : List UInt8) (h : (MP.bin bs).WF) (f : Nat) (rest : List UInt8) :
    decodeF (f + 1) (encode (.bin bs) ++ rest) = some (.bin bs, rest) := by
  simp only [MP.WF] at h
  simp only [encode, encBinLen]
  split
  · simp only [List.cons_append, List.append_assoc, hd_c4]; exact sized_be 1 _ _ _ (by simpa)
  · split
    · simp only [List.cons_append, List.append_assoc, hd_c5]; exact sized_be 2 _ _ _ (by simpa)
    · simp only [List.cons_append, List.append_assoc, hd_c6]; exact sized_be 4 _ _ _ (by simpa)

theorem decode_str (bs : List UInt8) (h : (MP.str bs).WF) (f : Nat) (rest : List UInt8) :
    decodeF (f + 1) (encode (.str bs) ++ rest) = some (.str bs, rest) := by
  simp only [MP.WF] at h
  simp only [encode, encStrLen]
  split
  · simp only [List.cons_append, List.nil_append]
    rw [hd_fixstr _ _ _ (by assumption), takeN_append]; rfl
  · split
    · simp only [List.cons_append, List.append_assoc, hd_d9]; exact sized_be 1 _ _ _ (by simpa)
    · split
      · simp only [List.cons_append, List.append_assoc, hd_da]; exact sized_be 2 _ _ _ (by simpa)
      · simp only [List.cons_append, List.append_assoc, hd_db]; exact sized_be 4 _ _ _ (by simpa)

/-- the array header, given that the elements decode -/
theorem decode_arr_hdr (xs : List MP) (hl : xs.length < 4294967296) (f : Nat) (rest : List UInt8)
    (tail : List UInt8)
    (hx : decodeN (decodeF f) xs.length (tail ++ rest) [] = some (xs, rest)) :
    decodeF (f + 1) (encArrLen xs.length ++ tail ++ rest) = some (.arr xs, rest) := by
  simp only [encArrLen]
  split
  · simp only [List.cons_append, List.nil_append]
    rw [hd_fixarr _ _ _ (by assumption), hx]; rfl
  · split
    · simp only [List.cons_append, List.append_assoc, hd_dc, arrN, readBE_be]
      rw [Nat.mod_eq_of_lt (by simpa)]
      simp [hx, wrap]
    · simp only [List.cons_append, List.append_assoc, hd_dd, arrN, readBE_be]
      rw [Nat.mod_eq_of_lt (by simpa)]
      simp [hx, wrap]

theorem depth_pos (v : MP) : 1 ≤ depth v := by
  cases v <;> simp [depth]

mutual
theorem decodeF_encode : ∀ (v : MP), v.WF → ∀ (f : Nat) (rest : List UInt8), depth v ≤ f + 1 →
    decodeF (f + 1) (encode v ++ rest) = some (v, rest)
  | .nil, _, _, _, _ => rfl
  | .bool b, _, _, _, _ => by cases b <;> rfl
  | .int i, h, f, rest, _ => decode_int i h f rest
  | .f64 b, _, f, rest, _ => decode_f64 b f rest
  | .bin bs, h, f, rest, _ => decode_bin bs h f rest
  | .str bs, h, f, rest, _ => decode_str bs h f rest
  | .arr xs, h, f, rest, hd => by
    simp only [MP.WF] at h
    simp only [depth] at hd
    have hx := decodeN_encodeList xs h.2 f rest [] (by omega)
    simp only [encode]
    exact decode_arr_hdr xs h.1 f rest _ (by simpa using hx)
theorem decodeN_encodeList : ∀ (xs : List MP), MP.WFList xs → ∀ (fuel : Nat) (rest : List UInt8)
    (acc : List MP), depthList xs ≤ fuel →
    decodeN (decodeF fuel) xs.length (encodeList xs ++ rest) acc = some (acc.reverse ++ xs, rest)
  | [], _, fuel, rest, acc, _ => by simp [encodeList, decodeN]
  | x :: xs, h, fuel, rest, acc, hd => by
    simp only [MP.WFList] at h
    simp only [depthList] at hd
    obtain ⟨f, rfl⟩ : ∃ f, fuel = f + 1 := ⟨fuel - 1, by have := depth_pos x; omega⟩
    have h1 := decodeF_encode x h.1 f (encodeList xs ++ rest) (by omega)
    have h2 := decodeN_encodeList xs h.2 (f + 1) rest (x :: acc) (by omega)
    simp only [encodeList, List.length_cons, decodeN, List.append_assoc, h1, h2]
    simp
end
/-- **round trip**: whatever `encode` writes for a representable value, followed by anything,
`decode` reads back as exactly that value and leaves exactly the rest -/
theorem decode_encode (v : MP) (h : v.WF) (rest : List UInt8) :
    decode (encode v ++ rest) = some (v, rest) := by
  apply decodeF_encode v h
  have := depth_le v
  simp only [List.length_append]; omega


/-! # The binding's wire contract

What the Rust side writes and the Python side reads is described where it is modelled (`MsgpackDefs.lean`, same heading).
The field orders of both sides are data (`Gen/Fields.lean`, parsed from the sources): swapping two fields on either side
changes `pyDecode ∘ rsEncode`, and `pyDecode_rsEncode` below stops being provable. -/

open Fields

/-- the Lean `RsPayload` mirrors the parsed `enum Payload`, which is `untagged` (workspace and linked crate) -/
theorem payload_shape :
    rsPayloadVariants = [("None", []), ("Integer", ["u64"]), ("Float", ["f64"]), ("StringLiteral", ["u32", "u32"])]
    ∧ rsPayloadUntagged = true
    ∧ (linkedPresent = true → lkPayloadVariants = rsPayloadVariants ∧ lkPayloadUntagged = true) := by decide +kernel

/-- enums are `Serialize_repr` (an integer), `TokenIdx` is a newtype of `u32` -/
theorem enum_wire_shape :
    rsSerializeRepr = [("TokenChannel", "u8"), ("TokenType", "u16"), ("ErrorKind", "u16")]
    ∧ rsTokenIdxNewtype = "u32"
    ∧ (linkedPresent = true → lkSerializeRepr = rsSerializeRepr ∧ lkTokenIdxNewtype = rsTokenIdxNewtype) := by decide +kernel

/-- the binding serialises exactly this tuple, with the default `to_vec` -/
theorem binding_tuple :
    bindingTuple = ["tok_vec", "errors", "Bytes::new(buffer.string_literals_buffer().as_bytes())"] := by decide +kernel

/-- the annotations this reading relies on (IntEnum fields are read as their integer; membership is
clause "enum-membership" of `Spec.C20`), and the Struct options -/
theorem py_annotations :
    pyTokenFieldsTyped.map (·.2) = ["TokenChannel", "TokenType", "int", "int", "int", "int", "int", "int", "int",
      "int | float | tuple[int, int] | None"]
    ∧ pyErrorFieldsTyped.map (·.2) = ["ErrorKind", "int", "int", "int", "int", "int | None"]
    ∧ pyTokenStructOpts.lookup "array_like" = some "True" ∧ pyErrorStructOpts.lookup "array_like" = some "True"
    ∧ pyTokenBases = ["Struct"] ∧ pyErrorBases = ["Struct"]
    ∧ pyDecoderType = "tuple[list[Token], list[Error], bytes]" := by decide +kernel

/-! ## alignment of the two sides -/

/-- **field orders are aligned**: same names in the same order (up to the one renaming
`last_token ↦ last_token_index`); for the workspace crate and for the linked crate -/
theorem fields_aligned :
    rsTokenFields = pyTokenFields ∧ rsErrorFields.map pyNameOf = pyErrorFields
    ∧ (linkedPresent = true → lkTokenFields = pyTokenFields ∧ lkErrorFields.map pyNameOf = pyErrorFields) := by
  decide +kernel

/-- position by position, the Rust type is one the Python annotation receives -/
theorem field_types_aligned :
    (rsTokenFieldsTyped.zip pyTokenFieldsTyped).all (fun (r, p) => tyCompat r.2 p.2) = true
    ∧ (rsErrorFieldsTyped.zip pyErrorFieldsTyped).all (fun (r, p) => tyCompat r.2 p.2) = true
    ∧ (linkedPresent = true →
        (lkTokenFieldsTyped.zip pyTokenFieldsTyped).all (fun (r, p) => tyCompat r.2 p.2) = true
        ∧ (lkErrorFieldsTyped.zip pyErrorFieldsTyped).all (fun (r, p) => tyCompat r.2 p.2) = true) := by
  decide +kernel

/-! ## what Python receives, field for field -/

theorem pyTokenOfMP_rsTokenMP (t : RsToken) : pyTokenOfMP (rsTokenMP t) = some (rsToPyToken t) := by
  obtain ⟨c, ty, i, a, b, l, col, el, ec, p⟩ := t
  cases p <;> rfl

theorem pyErrorOfMP_rsErrorMP (e : RsError) : pyErrorOfMP (rsErrorMP e) = some (rsToPyError e) := by
  obtain ⟨k, b, c, l, col, lt⟩ := e
  cases lt <;> rfl

theorem mapOpt_map {α β γ : Type} (g : α → β) (f : β → Option γ) (h : α → γ)
    (hf : ∀ a, f (g a) = some (h a)) (xs : List α) : mapOpt f (xs.map g) = some (xs.map h) := by
  induction xs with
  | nil => rfl
  | cons x xs ih => simp [mapOpt, hf, ih]

theorem fieldMap_rsMP (r : RsResult) : fieldMap (rsMP r) = some (rsToPy r) := by
  simp [fieldMap, rsMP, rsToPy, mapOpt_map _ _ _ pyTokenOfMP_rsTokenMP, mapOpt_map _ _ _ pyErrorOfMP_rsErrorMP]

/-! ### representable results -/

theorem WFList_map {α : Type} (g : α → MP) (xs : List α) (h : ∀ x ∈ xs, (g x).WF) :
    MP.WFList (xs.map g) := by
  induction xs with
  | nil => simp [MP.WFList]
  | cons x xs ih =>
    simp only [List.map, MP.WFList]
    exact ⟨h x (by simp), ih (fun y hy => h y (by simp [hy]))⟩

/-- whatever name is asked for, a representable token serialises it representably: the field tables play no part -/
theorem RsToken.get_WF (t : RsToken) (h : t.WF) (name : String) : (t.get name).WF := by
  obtain ⟨h1, h2, h3, h4, h5, h6, h7, h8, h9, hp⟩ := h
  unfold RsToken.get
  split <;> try (simp only [MP.WF]; omega)
  · cases hpl : t.payload <;> simp [hpl, rsPayloadMP, MP.WF, MP.WFList, RsPayload.WF] at hp ⊢ <;> omega
  · trivial

theorem RsError.get_WF (e : RsError) (h : e.WF) (name : String) : (e.get name).WF := by
  obtain ⟨h1, h2, h3, h4, h5, h6⟩ := h
  unfold RsError.get
  split <;> try (simp only [MP.WF]; omega)
  · cases hlt : e.last_token <;> simp [hlt, MP.WF] at h6 ⊢ <;> omega
  · trivial

theorem rsTokenMP_WF (t : RsToken) (h : t.WF) : (rsTokenMP t).WF :=
  ⟨by rw [List.length_map]; decide, WFList_map _ _ fun n _ => t.get_WF h n⟩

theorem rsErrorMP_WF (e : RsError) (h : e.WF) : (rsErrorMP e).WF :=
  ⟨by rw [List.length_map]; decide, WFList_map _ _ fun n _ => e.get_WF h n⟩

theorem rsMP_WF (r : RsResult) (h : r.WF) : (rsMP r).WF := by
  obtain ⟨h1, h2, h3, h4, h5⟩ := h
  simp only [rsMP, MP.WF, MP.WFList, List.length_map, List.length_cons, List.length_nil]
  refine ⟨by omega, ⟨h1, WFList_map _ _ (fun t ht => rsTokenMP_WF t (h4 t ht))⟩,
    ⟨h2, WFList_map _ _ (fun e he => rsErrorMP_WF e (h5 e he))⟩, h3, trivial⟩

/-- **C20 (i)**: decoding what the binding writes, positionally into the fields declared by the
Python classes in their order, yields the Rust values field for field -/
theorem pyDecode_rsEncode (r : RsResult) (h : r.WF) : pyDecode (rsEncode r) = some (rsToPy r) := by
  have := decode_encode (rsMP r) (rsMP_WF r h) []
  simp only [List.append_nil] at this
  simp [pyDecode, rsEncode, this, fieldMap_rsMP]

/-! # The enums: committed Python modules = what `build.rs` generates = the linked crate's enums

The naming rule of `build.rs` (`convert_case`) is described under the same heading in `MsgpackDefs.lean`. -/

open PyEnums

/-- examples of the conversion rule (`EXCL2`, not `EXCL_2`: letter–digit boundaries are removed) -/
example : upperSnake .pascalNoLetterDigit "KwmQKCmpres".toList = "KWM_QK_CMPRES"
    ∧ upperSnake .pascalNoLetterDigit "EXCL2".toList = "EXCL2"
    ∧ upperSnake .pascalNoLetterDigit "MacroSep".toList = "MACRO_SEP"
    ∧ upperSnake .pascal "MissingExpectedSemiOrEOF".toList = "MISSING_EXPECTED_SEMI_OR_EOF" := by decide +kernel

/-- the character-list tables of the linked crate are the string tables -/
theorem lkChars_eq :
    lkTokenTypeChars.map (fun (n, v) => (String.ofList n, v)) = lkTokenType
    ∧ lkTokenChannelChars.map (fun (n, v) => (String.ofList n, v)) = lkTokenChannel
    ∧ lkErrorKindChars.map (fun (n, v) => (String.ofList n, v)) = lkErrorKind := by decide +kernel

/-- **C20 (iii), second half**: the committed Python enums are the enums of the **linked** crate
through `build.rs`'s naming rule, values by discriminant -/
theorem pyEnum_eq_rsEnum :
    PyEnums.linkedPresent = true →
      pyTokenType = tokenTypeOfRust lkTokenTypeChars
      ∧ pyTokenChannel = tokenChannelOfRust lkTokenChannelChars
      ∧ pyErrorKind = errorKindOfRust lkErrorKindChars := by decide +kernel

end Msgpack
end SasLexer
