import SasLexer.Spec.Pairs
import SasLexer.Lex.Main
import SasLexer.Proofs.Kernel.Shift
import SasLexer.Properties.C03
/-!
# C17 — a leading byte-order mark is transparent: theorems

Full-strength statement: `C17_statement`.

Proved — **kernel, relational, for every control logic** (`kernel_C17`): for every program `p`
(main loop) and `q` (finalisation) over the primitives, every source `s` not starting with a BOM
and every build configuration, the run on `BOM :: s` performs the same operations as the run on
`s` and ends in the state shifted by (3 bytes, 1 char): tokens, line starts and errors have their
byte offsets + 3 and char offsets + 1, and lines, columns, token indices, payloads, the literal
buffer, the mode stack and the returned values are identical.  This rests on `run_shift`
(`Proofs/Kernel/Shift.lean`): no primitive's response contains a position, so a program cannot
tell the two runs apart.

Side condition `RunOk`: the two primitives whose byte arithmetic saturates at zero
(`pendingTextWithPrev`: `cur_token_byte_offset.saturating_sub(1)`; `litResolve back`:
`cur_byte_offset() - back`) must not be executed at an offset below their decrement.  In the
real control logic they run after the opening quote of the literal has been consumed.  The
executable monitor `sideOkRun` evaluates the condition on every explored run
(`C17_model_partial` assumes it; the evidence reports on how many runs it held).
-/
namespace SasLexer

def C17_statement : Prop :=
  ∀ (cfg : Cfg) (s : List Char), s.head? ≠ some BOM → Spec.C17 s (modelDump cfg s) (modelDump cfg (BOM :: s)) = []

def bomShift : Shift := { pre := [BOM], db := 3, dc := 1, hdb := by decide, hdc := rfl }

theorem new_bom (cfg : Cfg) (s : List Char) (h : s.head? ≠ some BOM) :
    Lexer.new cfg (BOM :: s) = shiftL bomShift (Lexer.new cfg s) := by
  have h0 : bomChars s = 0 ∧ bomLen s = 0 := by
    rcases bom_cases s with ⟨hc, hl, -⟩ | ⟨-, -, t, rfl⟩
    · exact ⟨hc, hl⟩
    · exact absurd rfl h
  have h1 : bomChars (BOM :: s) = 1 ∧ bomLen (BOM :: s) = 3 := by simp [bomChars, bomLen]
  rw [new_eq, new_eq]
  simp [shiftL, bomShift, Shift.cur, Shift.pos, Shift.line, Shift.lit, h0, h1, utf8Len, show BOM.utf8Size = 3 by decide,
    Nat.add_comm]

/-- detached buffer of the shifted state = shifted detached buffer -/
def shiftD (σ : Shift) (b : DBuf) : DBuf :=
  { lines := b.lines.map σ.line, toks := b.toks.map σ.tok, lits := b.lits }

theorem intoDetached_shift (σ : Shift) (cfg : Cfg) (L : Lexer) (hn : L.linesR ≠ []) :
    (shiftL σ L).intoDetached cfg = (shiftD σ (L.intoDetached cfg).1, shiftL σ (L.intoDetached cfg).2) := by
  unfold Lexer.intoDetached
  have e : L.linesR.isEmpty = false := by simpa using hn
  simp only [shiftL_linesR, List.isEmpty_map, e, Bool.false_eq_true, if_false]
  have hlen : (σ.pre ++ L.src).length = L.src.length + σ.dc := by rw [List.length_append, σ.hdc, Nat.add_comm]
  cases hts : L.toksR with
  | nil =>
    simp only [shiftL, hts, List.map_nil, shiftD, List.reverse_cons, List.reverse_nil, List.nil_append, List.map_cons,
      List.length_map, Shift.tok, hlen, List.map_reverse]
  | cons t ts =>
    have ety : (σ.tok t).ty = t.ty := rfl
    simp only [shiftL, hts, List.map_cons, ety]
    by_cases hE : t.ty = .EOF
    · simp only [hE, if_true, shiftD, List.map_reverse, List.map_cons, hts]
    · simp only [hE, if_false, shiftD, List.map_reverse, List.map_cons, List.length_map, Shift.tok, hlen,
        List.reverse_cons, List.map_append, List.map_nil]

/-- **Kernel theorem (C17), every control logic**: the run on `BOM :: s` is the run on `s` with every offset moved by the
BOM, as long as the two saturating primitives are not used at offset 0 (`RunOk`) -/
theorem kernel_C17 (cfg : Cfg) {α β} (p : Prog α) (q : Prog β) (s : List Char) (h : s.head? ≠ some BOM)
    (hp : RunOk cfg p (Lexer.new cfg s)) (hq : RunOk cfg q (Prog.run cfg p (Lexer.new cfg s)).2) :
    (runThenDetach cfg p q (BOM :: s)).1 = shiftD bomShift (runThenDetach cfg p q s).1 ∧
    (runThenDetach cfg p q (BOM :: s)).2 = shiftL bomShift (runThenDetach cfg p q s).2 ∧
    (Prog.run cfg p (Lexer.new cfg (BOM :: s))).1 = (Prog.run cfg p (Lexer.new cfg s)).1 := by
  have k0 := new_KPos cfg s
  have n0 := new_KLn cfg s
  have r1 := run_shift bomShift cfg p (Lexer.new cfg s) k0 n0 hp
  have k1 := run_KPos cfg p _ k0
  have n1 := run_KLn cfg p _ n0
  have r2 := run_shift bomShift cfg q _ k1 n1 hq
  have n2 := run_KLn cfg q _ n1
  simp only [runThenDetach, new_bom cfg s h, r1, r2, intoDetached_shift bomShift cfg _ n2.ne, and_self]


/-! ## executable monitor of the side condition, and the model-level statement -/

def sideOkB (o : Op) (L : Lexer) : Bool :=
  match o with
  | .pendingTextWithPrev => decide (1 ≤ L.tok.byte)
  | .litResolve back => decide (back ≤ L.curByte)
  | _ => true

theorem sideOkB_iff (o : Op) (L : Lexer) : sideOkB o L = true ↔ SideOk o L := by
  cases o
  case pendingTextWithPrev | litResolve => exact decide_eq_true_iff
  all_goals exact iff_of_true rfl trivial

/-- runs the program like `Prog.run` and reports whether every executed primitive met its side
condition -/
def sideOkRun (cfg : Cfg) {α} : Prog α → Lexer → Bool
  | .ret _, _ => true
  | .op o k, L =>
    sideOkB o L &&
      (match (step cfg o L).2.panicked with
       | some _ => true
       | none => sideOkRun cfg (k (step cfg o L).1) (step cfg o L).2)

theorem sideOkRun_sound (cfg : Cfg) {α} (p : Prog α) : ∀ L, sideOkRun cfg p L = true → RunOk cfg p L := by
  induction p with
  | ret a => intro L _; trivial
  | op o k ih =>
    intro L h
    unfold sideOkRun at h
    simp only [Bool.and_eq_true] at h
    refine ⟨(sideOkB_iff o L).mp h.1, ?_⟩
    intro hp
    have := h.2
    rw [hp] at this
    exact ih _ _ this

/-- the side condition on the two programs of the modelled lexer for source `s` -/
def lexSideOk (cfg : Cfg) (s : List Char) : Bool :=
  let L0 := Lexer.new cfg s
  let p := mainLoop cfg (budgetMul * L0.srcLen + 64) 0 (L0.srcLen, [.default])
  sideOkRun cfg p L0 && sideOkRun cfg (finalizeLexing cfg) (Prog.run cfg p L0).2

/-- **C17 for the modelled control logic, partial**: for the main-loop and finalisation programs
that the model runs on `s` (fixed fuel and initial detector memory), the run on `BOM :: s` of the
*same* two programs is the shifted run — whenever the monitored side condition holds on `s`.
(What is missing for `C17_statement`: the model picks fuel `8·len + 64` and the initial
`last_state` from the source length, which differ by the BOM's 3 bytes between the two sources;
that the result does not depend on them is the termination argument of C01.) -/
theorem C17_model_partial (cfg : Cfg) (s : List Char) (h : s.head? ≠ some BOM) (hok : lexSideOk cfg s = true) :
    let L0 := Lexer.new cfg s
    let p := mainLoop cfg (budgetMul * L0.srcLen + 64) 0 (L0.srcLen, [.default])
    (runThenDetach cfg p (finalizeLexing cfg) (BOM :: s)).1
      = shiftD bomShift (runThenDetach cfg p (finalizeLexing cfg) s).1 := by
  intro L0 p
  unfold lexSideOk at hok
  simp only [Bool.and_eq_true] at hok
  exact (kernel_C17 cfg p (finalizeLexing cfg) s h (sideOkRun_sound cfg p _ hok.1)
    (sideOkRun_sound cfg _ _ hok.2)).1

/-- non-vacuity: the side condition holds on an input that exercises both saturating primitives
(a double-quoted hex literal and an escaped single-quoted literal) -/
example : lexSideOk ⟨true, true, false⟩ "x=\"41\"x 'a''b' %str(%');".toList = true := by
  -- takes the characters from the literal: the kernel's own `String.toList` of a literal is quadratic in its length
  rw [String.toList_ofList]
  decide +kernel

end SasLexer
