import SasLexer.Spec.C03
import SasLexer.Lex.Main
import SasLexer.Proofs.Kernel.Run
import SasLexer.Proofs.LexProgram
/-!
# C03 — theorems

`kernel_C03`: for **every** control logic (any main-loop program `p`, any finalisation
program `q`), every source text and both build profiles, all token and error offsets of the
detached result are position pairs of the source.  `C03_model` instantiates it for the
hand-modelled control logic (`lexProgram`) and states it with the executable predicate
`Spec.C03` that also judges the implementation's dumps.
-/
namespace SasLexer

theorem charIdxOfByte_append (pre suf : List Char) :
    charIdxOfByte (pre ++ suf) (utf8Len pre) = some pre.length := by
  induction pre with
  | nil => simp [utf8Len, charIdxOfByte]
  | cons c cs ih =>
    have hp := Char.utf8Size_pos c
    simp only [List.cons_append, utf8Len, List.length_cons]
    obtain ⟨k, hk⟩ : ∃ k, c.utf8Size + utf8Len cs = k + 1 := ⟨c.utf8Size + utf8Len cs - 1, by omega⟩
    rw [hk, charIdxOfByte]
    have h1 : c.utf8Size ≤ k + 1 := by omega
    have h2 : k + 1 - c.utf8Size = utf8Len cs := by omega
    simp [h1, h2, ih]

theorem charIdxOfByte_of_posPair {s : List Char} {b c : Nat} (h : PosPair s b c) :
    charIdxOfByte s b = some c := by
  obtain ⟨pre, suf, rfl, rfl, rfl⟩ := h
  exact charIdxOfByte_append pre suf

/-- the generic result of a lexer run: main program, finalisation program, detach -/
def runThenDetach (cfg : Cfg) {α β} (p : Prog α) (q : Prog β) (s : List Char) : DBuf × Lexer :=
  let L1 := (Prog.run cfg p (Lexer.new cfg s)).2
  let L2 := (Prog.run cfg q L1).2
  L2.intoDetached cfg

/-- two runs from the initial state keep the position invariant and the source -/
theorem run_run_KPos (cfg : Cfg) {α β} (p : Prog α) (q : Prog β) (s : List Char) :
    KPos (Prog.run cfg q (Prog.run cfg p (Lexer.new cfg s)).2).2 ∧
    (Prog.run cfg q (Prog.run cfg p (Lexer.new cfg s)).2).2.src = s :=
  ⟨run_KPos cfg q _ (run_KPos cfg p _ (new_KPos cfg s)), by rw [run_src, run_src, new_src]⟩

/-- **Kernel theorem (C03), for every control logic**: the char offset of every token and of every error is the number
of scalars before its byte offset -/
theorem kernel_C03 (cfg : Cfg) {α β} (p : Prog α) (q : Prog β) (s : List Char) :
    (∀ t ∈ (runThenDetach cfg p q s).1.toks, charIdxOfByte s t.byte = some t.start) ∧
    (∀ e ∈ (Prog.run cfg q (Prog.run cfg p (Lexer.new cfg s)).2).2.errsR,
        charIdxOfByte s e.byte = some e.char) := by
  obtain ⟨h2, hsrc⟩ := run_run_KPos cfg p q s
  exact ⟨fun t ht => charIdxOfByte_of_posPair (hsrc ▸ (intoDetached_pos cfg _ h2).1 t ht),
    fun e he => charIdxOfByte_of_posPair (hsrc ▸ h2.errs e he)⟩

theorem lastState_KPos (cfg : Cfg) (s : List Char) : KPos (lastState cfg s) ∧ (lastState cfg s).src = s := by
  have h1 : KPos (mainRun cfg s).2 ∧ (mainRun cfg s).2.src = s := ⟨run_KPos cfg _ _ (new_KPos cfg s), run_src ..⟩
  exact lastState_ind (I := fun L => KPos L ∧ L.src = s) h1 fun _ => ⟨run_KPos cfg _ _ h1.1, (run_src ..).trans h1.2⟩

/-- all positions in the result of the modelled lexer are position pairs -/
theorem lexProgram_pos (cfg : Cfg) (s : List Char) :
    (∀ t ∈ (lexProgram cfg s).buf.toks, charIdxOfByte s t.byte = some t.start) ∧
    (∀ e ∈ (lexProgram cfg s).final.errsR, charIdxOfByte s e.byte = some e.char) := by
  obtain ⟨hk, hs⟩ := lastState_KPos cfg s
  constructor
  · intro t ht
    rcases lexProgram_cases cfg s with ⟨-, h⟩ | ⟨-, -, -, h⟩ <;> rw [h] at ht
    · cases ht
    · exact charIdxOfByte_of_posPair (hs ▸ (intoDetached_pos cfg _ hk).1 t ht)
  · intro e he
    rw [lexProgram_final_errs] at he
    exact charIdxOfByte_of_posPair (hs ▸ hk.errs e he)

/-- **C03 for the modelled lexer**, stated with the executable predicate that also judges the
implementation's dumps: for every source text and build configuration. -/
theorem C03_model (cfg : Cfg) (s : List Char) : Spec.C03 s (modelDump cfg s) = true := by
  obtain ⟨ht, he⟩ := lexProgram_pos cfg s
  rcases modelDump_cases cfg s with ⟨o, h⟩ | ⟨e, -, h⟩ <;> rw [h]
  · simp [Spec.C03, emptyDump]
  · simp only [Spec.C03, dumpOfBuf, Bool.and_eq_true, List.all_eq_true, Spec.posOk, beq_iff_eq]
    exact ⟨fun t h => ht t h, fun e h => he e (by simpa using h)⟩

/-- non-vacuity: a concrete multi-byte input on which the model produces tokens and an error -/
example : (modelDump ⟨true, false, false⟩ "é='a".toList).toks.length = 4
    ∧ (modelDump ⟨true, false, false⟩ "é='a".toList).errs.length = 1 := by decide +kernel

end SasLexer
