import SasLexer.Spec.Pairs
import SasLexer.Lex.Main
/-!
# C15 — lexing is compositional at closed statement boundaries

Full-strength statement: `C15_statement`.  No theorem about it is proved: it is decided per run by `Spec.C15` on dump triples
(`A`, `B`, `A ++ B`); the `example` below is a kernel-evaluated instance.
-/
namespace SasLexer

def C15_statement : Prop :=
  ∀ (cfg : Cfg) (a b : List Char),
    Spec.C15 a b (modelDump cfg a) (modelDump cfg b) (modelDump cfg (a ++ b)) = []

example : Spec.closedPrefix "x='é';\n%let a=1;".toList (modelDump ⟨true, true, false⟩ "x='é';\n%let a=1;".toList) = true ∧
    Spec.C15 "x='é';\n%let a=1;".toList "%m(\"a\"\"b\") y\n(;".toList
      (modelDump ⟨true, true, false⟩ "x='é';\n%let a=1;".toList) (modelDump ⟨true, true, false⟩ "%m(\"a\"\"b\") y\n(;".toList)
      (modelDump ⟨true, true, false⟩ ("x='é';\n%let a=1;".toList ++ "%m(\"a\"\"b\") y\n(;".toList)) = [] := by
  decide +kernel

end SasLexer
