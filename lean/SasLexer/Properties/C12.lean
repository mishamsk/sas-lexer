import SasLexer.Proofs.Tables
import SasLexer.Spec.Grammar
/-!
# C12 / C13 — well-formed programs: no diagnostics, no residual state; delimiters are tokens

The statements of C12 and C13 are relative to the construct grammar whose
executable form is the generator `/verif/tools/gen_grammar.py` (DESIGN.md §7.3); they quantify
over every program it derives.  Proved here: the table theorems that the grammar's delimiters
are exactly what each keyword pre-loads (`C14_preload`, `C10_builtins_expect_lparen`), the
flag-byte round trips (`evalFlags_roundtrip`, `argFlags_roundtrip`: a pre-loaded mode means what
its constructor arguments said), and concrete derivations evaluated in the kernel (these are
tests, labelled as such).  The induction over derivations (one lemma per production, in
continuation form) is not proved; every generated program is judged by `Spec.C12`/`Spec.C13` on
the implementation's dump, and the model is tied by full-dump correspondence.
-/
namespace SasLexer

/-- kernel-evaluated derivations (tests): nested calls, named arguments, %str, %do forms -/
example : Spec.C12 "%macro m(a,b=%str(,)); %do i=1 %to %eval(&a+1); %put &i; %end; %mend; %m(1,b=(x,y));".toList
    (modelDump ⟨true, true, false⟩
      "%macro m(a,b=%str(,)); %do i=1 %to %eval(&a+1); %put &i; %end; %mend; %m(1,b=(x,y));".toList) = [] := by
  -- takes the characters from the literal: the kernel's own `String.toList` of a literal is quadratic in its length
  rw [String.toList_ofList]
  decide +kernel

example : Spec.C13 "%m(a=(1,2),%str(;))".toList (modelDump ⟨true, false, false⟩ "%m(a=(1,2),%str(;))".toList)
    [(2, .LPAREN), (4, .ASSIGN), (10, .COMMA), (18, .RPAREN)] [5, 7, 9, 16] [] = [] := by
  rw [String.toList_ofList]
  decide +kernel

end SasLexer
