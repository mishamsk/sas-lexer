import SasLexer.Proofs.Kernel.New
import SasLexer.Spec.C06
import SasLexer.Lex.Main
import SasLexer.Proofs.TokenTypeAll
import SasLexer.Proofs.Model.ChanFns
import SasLexer.Proofs.Model.ChanSound
import SasLexer.Proofs.LexProgram
/-!
# C06 — a token's text has the lexical shape its type and channel promise: theorems

Full-strength statement: `C06_statement`.  Proved (table theorems): `C06_table_total` — the shape
table has a row for every token type (a new variant of the regenerated `TokenType` without a row
breaks this proof); `C06_keyword_rows` — every keyword-typed row is backed by at least one
keyword of the regenerated keyword maps.  The emit-site obligations (≈ 90 `emit_token` sites:
"the text between the token start and the cursor has the shape of the emitted type") are
model-level and not proved; they are decided per run by `Spec.C06` on every token of every
implementation dump and tied by correspondence on (type, channel, payload, offsets).

Proved for the model, **every input, both profiles, every way the run can end** (`C06_model_channels`): the channel
sentence of C06 in its context-free reading (`Spec/ChanTable.lean`: comment types ⇔ comment channel; `WS`,
`CatchAll`, `%str/%nrstr` always hidden; besides them only `COLON` and the parentheses may be hidden; everything
else on the default channel).  `Proofs/Model/Chan.lean` defines a state-free discipline `ChanR` (every emitted /
retyped / inserted token obeys the table, every pushed `ExpectSymbol(ty, ch)` has `chanOK ch ty`, mode-stack reads
return modes with that property); it holds of all ≈ 110 functions of the control logic by their footprints
(`FootprintFns.lean`, instantiated in `ChanFns.lean`) — the computed types come with their own lemmas
(`ChanTypes.lean`: keyword tables by `decide +kernel`, numeric parsers, mnemonics, literal endings) —; `ChanSound.lean` proves it sound against the primitives (`step_ChInv`, `ChanR_sound`).
The same discipline carries a second table, `payKindOK` (which kind of payload a type carries): `model_payload_kinds`,
and a third fact: a `MacroSep` is emitted only under `cfg.macroSep` (`model_no_sep_without_feature`, used by C18).
-/
namespace SasLexer

def C06_statement : Prop := ∀ (cfg : Cfg) (s : List Char), Spec.C06 s (modelDump cfg s) = []

theorem C06_table_total (ty : TokenType) : (Spec.C06.familyOf ty).isSome = true :=
  List.all_eq_true.1 (by decide +kernel : (TokenType.all.all fun ty => (Spec.C06.familyOf ty).isSome) = true) ty
    (TokenType.mem_all ty)

/-- `familyOf` names the families `keyword` and `kwm` only under the guards `isKwType` and `isKwmType` -/
theorem Spec.C06.familyOf_kw_guard (ty : TokenType) :
    (!(Spec.C06.familyOf ty == some .keyword) || Spec.C06.isKwType ty) = true ∧
    (!(Spec.C06.familyOf ty == some .kwm) || Spec.C06.isKwmType ty) = true := by
  unfold Spec.C06.familyOf
  split
  all_goals first | exact ⟨rfl, rfl⟩ | skip
  split
  · exact ⟨rfl, rfl⟩
  · split
    · next h => exact ⟨by simp [h], rfl⟩
    · split
      · next h => exact ⟨rfl, by simp [h]⟩
      · exact ⟨rfl, rfl⟩

theorem C06_keyword_rows :
    (TokenType.all.all fun ty =>
      !(Spec.C06.familyOf ty == some .keyword) || Spec.C06.isKwType ty) = true ∧
    (TokenType.all.all fun ty =>
      !(Spec.C06.familyOf ty == some .kwm) || Spec.C06.isKwmType ty) = true :=
  ⟨List.all_eq_true.2 fun ty _ => (Spec.C06.familyOf_kw_guard ty).1,
   List.all_eq_true.2 fun ty _ => (Spec.C06.familyOf_kw_guard ty).2⟩

example : Spec.C06 "x='a''b'd; %let q=%str(a%'b); y=&&v&i..z 0ffx $f5.2 /*c*/ *s;".toList
    (modelDump ⟨true, true, false⟩ "x='a''b'd; %let q=%str(a%'b); y=&&v&i..z 0ffx $f5.2 /*c*/ *s;".toList) = [] := by
  -- takes the characters from the literal: the kernel's own `String.toList` of a literal is quadratic in its length
  rw [String.toList_ofList]
  decide +kernel

theorem new_ChInv (cfg : Cfg) (s : List Char) : ChInv cfg.macroSep (Lexer.new cfg s) := by
  refine ⟨by simp, ?_, .inl rfl⟩
  intro m hm
  rw [new_modesR, List.mem_singleton] at hm
  subst hm; trivial

theorem intoDetached_ChInv (cfg : Cfg) (L : Lexer) (h : ChInv cfg.macroSep L) :
    ∀ t ∈ (L.intoDetached cfg).1.toks, tokInfoOK cfg.macroSep t = true := by
  obtain ⟨k, he⟩ := intoDetached_toks cfg L
  intro t ht
  rw [he] at ht
  split at ht
  · exact h.toks t (List.mem_reverse.1 ht)
  · rcases List.mem_append.1 ht with ht | ht
    · exact h.toks t (List.mem_reverse.1 ht)
    · rw [List.mem_singleton.1 ht]; rfl

theorem lastState_ChInv (cfg : Cfg) (s : List Char) : ChInv cfg.macroSep (lastState cfg s) := by
  have h1 : ChInv cfg.macroSep (mainRun cfg s).2 :=
    (ChanR_sound cfg _ (fun _ => True) _ (mainLoop_chan cfg _ _ _ fun _ => trivial) (new_ChInv cfg s)).1
  exact lastState_ind h1 fun _ => (ChanR_sound cfg _ (fun _ => True) _ (finalizeLexing_chan cfg fun _ => trivial) h1).1

/-- **C06, channel table, for the model: every input, both profiles, every ending.** -/
theorem model_channels (cfg : Cfg) (s : List Char) : ∀ t ∈ (lexProgram cfg s).buf.toks, tokInfoOK cfg.macroSep t = true := by
  intro t ht
  rcases lexProgram_cases cfg s with ⟨-, h⟩ | ⟨-, -, -, h⟩ <;> rw [h] at ht
  · cases ht
  · exact intoDetached_ChInv cfg _ (lastState_ChInv cfg s) t ht

theorem C06_model_tables (cfg : Cfg) (s : List Char) :
    ((modelDump cfg s).toks.all (tokInfoOK cfg.macroSep)) = true := by
  rw [List.all_eq_true]
  rcases modelDump_cases cfg s with ⟨o, h⟩ | ⟨e, -, h⟩ <;> rw [h]
  · intro t ht; cases ht
  · exact model_channels cfg s

/-- the three tables, for one token of the model's dump -/
theorem model_tokInfoOK {cfg : Cfg} {s : List Char} {t : TokInfo} (ht : t ∈ (modelDump cfg s).toks) :
    chanOK t.chan t.ty = true ∧ payKindOK t.ty t.payload = true ∧ (t.ty != .MacroSep || cfg.macroSep) = true := by
  simpa [tokInfoOK, and_assoc] using List.all_eq_true.1 (C06_model_tables cfg s) t ht

theorem C06_model_channels (cfg : Cfg) (s : List Char) :
    ((modelDump cfg s).toks.all fun t => chanOK t.chan t.ty) = true :=
  List.all_eq_true.2 fun _ ht => (model_tokInfoOK ht).1

/-- **payload-kind table for the model, every input** (C07 `only-string-types-carry-str-payload`, C08 "numeric tokens carry
their number", C06 "macro-variable resolve tokens carry their level") -/
theorem model_payload_kinds (cfg : Cfg) (s : List Char) :
    ((modelDump cfg s).toks.all fun t => payKindOK t.ty t.payload) = true :=
  List.all_eq_true.2 fun _ ht => (model_tokInfoOK ht).2.1

/-- **no `MacroSep` without the `macro_sep` feature** (C18: the feature *only adds* separator tokens — a build without it
has none), model, every input -/
theorem model_no_sep_without_feature (cfg : Cfg) (s : List Char) (hf : cfg.macroSep = false) :
    ∀ t ∈ (modelDump cfg s).toks, t.ty ≠ .MacroSep := by
  intro t ht
  simpa [hf] using (model_tokInfoOK ht).2.2

end SasLexer
