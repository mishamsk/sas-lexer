import SasLexer.Proofs.Kernel.Profile
import SasLexer.Proofs.Kernel.New
/-!
# C19 — the result is a function of the source text alone: theorems

(a) debug vs release — `kernel_C19_debug_release`: for **every** program over the primitives,
if the debug run does not stop at an assertion the release run of the same program returns the
same value and the same state (debug assertions are pure observers of the primitives).
The hand-modelled control logic additionally contains debug-only code (`debug_assert!`s whose
condition calls `self.mode()`, the loop detector); that these do not change the result is
decided per run (`Spec.C19` on the dev/release dump pair of the implementation, and
model/implementation correspondence in both profiles).
(b) stable vs nightly — both `add_token` paths push the same element; the model has one
definition for both (`Lexer.bufAddToken` ignores `cfg.nightly`): `kernel_C19_nightly`.
(c),(d) threads and history: the model is a pure function, so the statement is true of the
model by construction and says nothing about the runtime; these clauses are labelled partial —
decided by the concurrent / repeated differential runs of the harness (`harness threads`).
-/
namespace SasLexer

theorem kernel_C19_debug_release (c1 c2 : Cfg) (hf : c1.macroSep = c2.macroSep) (hrel : c2.debug = false)
    {α} (p : Prog α) (s : List Char) :
    (Prog.run c1 p (Lexer.new c1 s)).2.panicked = none →
    (Prog.run c1 p (Lexer.new c1 s)).1 = (Prog.run c2 p (Lexer.new c2 s)).1 ∧
    eraseP (Prog.run c1 p (Lexer.new c1 s)).2 = eraseP (Prog.run c2 p (Lexer.new c2 s)).2 ∧
    (Prog.run c2 p (Lexer.new c2 s)).2.panicked = none :=
  run_profile c1 c2 hf hrel p _ _ rfl (new_panicked c2 s)

/-- the toolchain flag is not read by any primitive -/
theorem kernel_C19_nightly (c : Cfg) (o : Op) (L : Lexer) :
    step { c with nightly := true } o L = step { c with nightly := false } o L := by
  cases o <;> eq_refl

end SasLexer
