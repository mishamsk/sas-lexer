import SasLexer.Spec.C07
import SasLexer.Lex.Main
import SasLexer.Properties.C08
/-!
# C07 — string payloads hold the unquoted value and partition the literal buffer: theorems

Full-strength statement: `C07_statement`.  Proved (pure, all inputs): `C07_hex_decode_spec` — the
model of `parse_sas_hex_string` (`hex.rs`, after the `fix:` that rejects a sign) decodes a content
exactly when the specification's "pairs of hex digits, commas ignored" does, to the same bytes.
Kernel: payload ranges are only ever produced by `add_string_literal*` (registers), see
`Prog.lean`; the partition clause and the three escaping scanners are model-level and decided per
run by `Spec.C07` on implementation dumps (streams with escapes at every position).
-/
namespace SasLexer

def C07_statement : Prop := ∀ (cfg : Cfg) (s : List Char), Spec.C07 s (modelDump cfg s) = []

theorem hexNibble_eq (c : Char) :
    Spec.StrLit.hexNibble? c = if isAsciiHexDigit c then some (hexDigitVal c) else none := by
  unfold Spec.StrLit.hexNibble?
  by_cases h : isAsciiHexDigit c = true
  · rw [if_pos h, hexDigitVal_eq c h]
    unfold Spec.NumLit.hexDigitValue
    unfold isAsciiHexDigit at h
    split
    · rfl
    · split
      · rfl
      · rw [if_pos (by simpa [*] using h)]
  · rw [if_neg h]
    unfold isAsciiHexDigit at h
    simp only [Bool.or_eq_true, not_or] at h
    rw [if_neg h.1.1, if_neg h.1.2, if_neg h.2]

theorem hexDigit_ascii (c : Char) (h : isAsciiHexDigit c = true) : isAscii c = true := by
  unfold isAsciiHexDigit isAsciiDigit at h
  unfold isAscii
  simp only [Bool.or_eq_true, Bool.and_eq_true, decide_eq_true_eq, char_le_iff] at h
  simp only [decide_eq_true_eq]
  rcases h with (h | h) | h
  · have : c.toNat ≤ 57 := h.2; omega
  · have : c.toNat ≤ 102 := h.2; omega
  · have : c.toNat ≤ 70 := h.2; omega

theorem hexPairs_eq_spec : ∀ (l : List Char), hexPairs l = Spec.StrLit.hexPairs? l
  | [] | [_] => rfl
  | a :: b :: r => by
    have ih := hexPairs_eq_spec r
    unfold hexPairs Spec.StrLit.hexPairs?
    rw [hexNibble_eq a, hexNibble_eq b, ← ih]
    by_cases ha : isAsciiHexDigit a = true <;> by_cases hb : isAsciiHexDigit b = true
    · have h1 := hexDigit_ascii a ha; have h2 := hexDigit_ascii b hb
      simp only [ha, hb, h1, h2, u8FromStrRadix16, bind, Option.bind, Bool.and_self, Bool.not_true,
        Bool.false_eq_true, if_false, if_true, pure]
      cases hexPairs r <;> simp [Nat.mul_comm]
    -- a char that is no hex digit: both sides are `none`
    all_goals simp [ha, hb, u8FromStrRadix16, bind, Option.bind]

/-- the model of `parse_sas_hex_string` decodes the content between the quotes exactly as the
specification reads "hex digit pairs, commas ignored" -/
theorem C07_hex_decode_spec (content : List Char) (q : Char) (x : Char) :
    parseSasHexString (q :: content ++ [q, x]) = Spec.StrLit.hexDecode? content := by
  unfold parseSasHexString Spec.StrLit.hexDecode?
  have hlen : ¬ ((q :: content ++ [q, x]).length < 3) := by simp
  simp only [hlen, if_false]
  have : ((q :: content ++ [q, x]).drop 1).take ((q :: content ++ [q, x]).length - 3) = content := by
    simp
  rw [this]
  exact hexPairs_eq_spec _

end SasLexer
