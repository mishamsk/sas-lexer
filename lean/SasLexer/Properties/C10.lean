import SasLexer.Proofs.TokenTypeAll
import SasLexer.Proofs.Tables
import SasLexer.Proofs.Model.FinClosers
/-!
# C10 — paired and grouped tokens are balanced: theorems

Full-strength statement: `C10_statement`.  Proved (table theorem over all 57 argument-taking
built-ins): `C10_builtins_expect_lparen` (and `builtins_expect_lparen_sep` of `Proofs/Tables.lean` for the
`macro_sep` configuration) — after the keyword token
the model has `WsOrCStyleCommentOnly, ExpectSymbol(LPAREN, channel of the keyword)` on top of
the mode stack, and `lex_expected_token` emits its token whether or not the symbol is there (for a type with an
expected character; read off `lexExpectedToken`, no theorem states it); so the keyword is
followed, after hidden tokens, by `(` on its channel provided nothing is pushed above them
(which is what the `fix:` for `%do %builtin…` restored).  String-expression balance relies on
`finalize_lexing` closing every `StringExpr` mode (restored by the `fix:` for the extra pop).
Both are decided per run by `Spec.C10` on implementation dumps of every truncation stream.

Proved for the model, **every input, both profiles** (`C10_model_closers`): the clause `closers-supplied` —
"missing closers are supplied as virtual tokens and reported".  `Proofs/Model/Fin.lean` gives a
deterministic abstract semantics `fwp` over the projection (type, channel, byte of every token; error kinds; mode
stack; pending-token and cursor byte) with its soundness theorem `fwp_sound`; `Proofs/Model/FinClosers.lean`
evaluates `finalize_lexing` in it for every mode stack (`finalizeMode_fwp`, `finalizeLoop_fwp`, by induction on the
stack) and relates the result to the specification's own computation of what is owed (`Rep.step`):
`finalizeLexing_closers`.  The theorem became provable with the `fix:` that removed the second pop under an open
string expression (F12, 5301e1d); before it the model, like the code, lost the `)` owed for `%eval((1+"`.
-/
namespace SasLexer

def C10_statement : Prop := ∀ (cfg : Cfg) (s : List Char), Spec.C10 s (modelDump cfg s) = []

theorem C10_builtins_expect_lparen :
    ∀ ty ∈ Spec.C10.argTakingBuiltins,
      ∃ ch rest, tokenAfterKeyword relCfg ty = some (ty, ch) ∧
        modesAfterKeyword relCfg ty = .wsOrCStyleCommentOnly :: .expectSymbol .LPAREN ch :: rest := by
  intro ty hty
  have h := builtins_expect_lparen
  rw [List.all_eq_true] at h
  have := h ty hty
  split at this
  · rename_i ty' ch ch' rest htok hmodes
    simp only [Bool.and_eq_true, beq_iff_eq] at this
    obtain ⟨rfl, rfl⟩ := this
    exact ⟨ch, rest, htok, hmodes⟩
  · exact absurd this (by simp)

/-- the inputs that were unbalanced on the pinned tree are balanced now -/
example : Spec.C10 "\"%eval(1".toList (modelDump ⟨false, false, false⟩ "\"%eval(1".toList) = [] := by decide +kernel
example : Spec.C10 "%do%scan(a,1)=1 %to 2;".toList (modelDump ⟨true, false, false⟩ "%do%scan(a,1)=1 %to 2;".toList) = [] := by
  -- takes the characters from the literal: the kernel's own `String.toList` of a literal is quadratic in its length
  rw [String.toList_ofList]
  decide +kernel
/-- F12 (fixed by 5301e1d): the `)` owed for the open nesting level under an unterminated string is supplied -/
example : Spec.C10 "%eval((1+\"".toList (modelDump ⟨false, false, false⟩ "%eval((1+\"".toList) = [] := by decide +kernel
example : ((modelDump ⟨true, false, false⟩ "%m(a=(\"".toList).toks.map (·.ty)) =
    [.MacroIdentifier, .LPAREN, .MacroString, .ASSIGN, .MacroString, .StringLiteral, .RPAREN, .RPAREN, .EOF] := by decide +kernel


open Spec.C10
/-- when the model returns at end of input, its dump passes the clause: the snapshot is the state finalisation
started from, the tokens and errors are those finalisation left (its `EOF` is last, so detaching adds none) -/
theorem lexProgram_closers {cfg : Cfg} {s : List Char} (h : (lexProgram cfg s).ending = some .eof) :
    ∃ sn, (lexProgram cfg s).snap = some sn ∧
      closersOfSnap sn (lexProgram cfg s).buf.toks (lexProgram cfg s).final.errsR.reverse = true := by
  obtain ⟨-, hl, hp, hbuf, -, hsnap⟩ := lexProgram_eof h
  refine ⟨_, hsnap, ?_⟩
  rw [hl] at hp
  obtain ⟨⟨c, rest, hhead⟩, hcl⟩ :=
    finalizeLexing_closers cfg (mainRun cfg s).2 (Option.eq_some_of_isSome (run_isSome cfg _ _ hp))
  rw [← hl] at hhead hcl
  obtain ⟨k, htoks⟩ := intoDetached_toks cfg (lastState cfg s)
  have heof : (lastState cfg s).toksR.head?.map (·.ty) = some .EOF := by
    cases hr : (lastState cfg s).toksR <;> simp [FS.of, hr] at hhead ⊢
    exact hhead.1.1
  rw [if_pos heof] at htoks
  simp only [closersOfSnap, snapshotOf, hbuf, htoks, lexProgram_final_errs, List.reverse_reverse]
  have e1 : ∀ o : Option TokInfo, (o.map (·.ty.toNat)).bind TokenType.ofNat? = o.map (·.ty) := by
    rintro (_ | t)
    · rfl
    · exact TokenType.ofNat?_toNat t.ty
  rw [e1]
  exact hcl

/-- **C10, clause `closers-supplied`, for the model: every input, both profiles.** -/
theorem C10_model_closers (cfg : Cfg) (s : List Char) : closersSupplied (modelDump cfg s) = true := by
  rcases modelDump_cases cfg s with ⟨o, h⟩ | ⟨e, he, h⟩ <;> rw [h]
  · cases o <;> rfl
  · cases e with
    | eof =>
      obtain ⟨sn, hsn, hc⟩ := lexProgram_closers he
      simpa [closersSupplied, dumpOfBuf, hsn] using hc
    | detected => simp [closersSupplied, dumpOfBuf, lexProgram_detected he]
    | budget => simp [closersSupplied, dumpOfBuf]

end SasLexer
