import SasLexer.Spec.C20
import SasLexer.Msgpack
/-!
# C20 — theorems

(i)   wire: `C20_roundtrip` (the msgpack codec: `decode ∘ encode = id` on everything `encode` can
      represent, with any trailing input), `C20_wire` (decoding what the binding writes, positionally
      into the Python classes' declared fields, gives the Rust values field for field),
      `C20_fields` (both declaration orders, parsed from the sources, coincide; types are compatible),
      `C20_payload_injective` (the untagged `Payload` is injective into Python's union).
(ii)/(iii) enums: `C20_enums` (committed Python modules = what `build.rs` regenerates = the linked
      crate's enums through `build.rs`'s naming rule); `C20_workspace_enums` records that the
      *workspace* crate's `TokenType` is a different enum (one more variant) — the shipped
      `token_type.py` describes the linked, published crate only.
(iv)  `C20_checker_sound`: what a verdict `[]` of the compiled checker `Spec.C20` means.  The checker
      judges the bytes actually returned by the extension module (translation validation; the linked
      lexer is the published crate, not the modelled one, hence no ∀-input theorem here).
-/
namespace SasLexer
open Msgpack Spec

theorem C20_roundtrip (v : MP) (h : v.WF) (rest : List UInt8) :
    decode (encode v ++ rest) = some (v, rest) := decode_encode v h rest

theorem C20_wire (r : RsResult) (h : r.WF) : pyDecode (rsEncode r) = some (rsToPy r) :=
  pyDecode_rsEncode r h

theorem C20_fields :
    (Fields.rsTokenFields = Fields.pyTokenFields
      ∧ Fields.rsErrorFields.map pyNameOf = Fields.pyErrorFields
      ∧ (Fields.linkedPresent = true → Fields.lkTokenFields = Fields.pyTokenFields
          ∧ Fields.lkErrorFields.map pyNameOf = Fields.pyErrorFields))
    ∧ (Fields.rsTokenFieldsTyped.zip Fields.pyTokenFieldsTyped).all (fun (r, p) => tyCompat r.2 p.2) = true
    ∧ (Fields.rsErrorFieldsTyped.zip Fields.pyErrorFieldsTyped).all (fun (r, p) => tyCompat r.2 p.2) = true :=
  ⟨fields_aligned, field_types_aligned.1, field_types_aligned.2.1⟩

/-- the untagged `Payload` is injective into Python's union `int | float | tuple[int, int] | None` -/
theorem C20_payload_injective (p q : RsPayload) (h : rsToPyPayload p = rsToPyPayload q) : p = q := by
  cases p <;> cases q <;> simp [rsToPyPayload] at h ⊢ <;> omega

/-- **C20 (iii)**: the committed Python enum modules are what `build.rs` regenerates (member tables, and the whole
files by sha256), when the regenerated files are available; and they are the enums of the **linked** crate through
`build.rs`'s naming rule, values by discriminant -/
theorem C20_enums :
    (PyEnums.genPresent = true →
      PyEnums.pyTokenType = PyEnums.genTokenType ∧ PyEnums.pyTokenChannel = PyEnums.genTokenChannel
      ∧ PyEnums.pyErrorKind = PyEnums.genErrorKind ∧ PyEnums.committedSha256 = PyEnums.generatedSha256)
    ∧ (PyEnums.linkedPresent = true →
      PyEnums.pyTokenType = tokenTypeOfRust PyEnums.lkTokenTypeChars
      ∧ PyEnums.pyTokenChannel = tokenChannelOfRust PyEnums.lkTokenChannelChars
      ∧ PyEnums.pyErrorKind = errorKindOfRust PyEnums.lkErrorKindChars) :=
  ⟨by decide +kernel, pyEnum_eq_rsEnum⟩

/-- The **workspace** crate (`/repo/crates/sas-lexer`, the modelled one) is *not* the linked crate:
its `TokenType` has `MacroVarResolve, MacroVarTerm` where the published 1.0.0-beta.3 has
`MacroVarExpr`, so every later discriminant is shifted by one and the committed `token_type.py`
does **not** describe the workspace crate.  `TokenChannel` and `ErrorKind` agree. -/
theorem C20_workspace_enums :
    PyEnums.linkedPresent = true →
      wsTokenChannel = PyEnums.lkTokenChannel ∧ wsErrorKind = PyEnums.lkErrorKind
      ∧ wsTokenType = PyEnums.lkTokenType.flatMap (fun (n, v) =>
          if v < 76 then [(n, v)]
          else if v = 76 then [("MacroVarResolve", 76), ("MacroVarTerm", 77)]
          else [(n, v + 1)])
      ∧ PyEnums.lkTokenType.lookup "MacroVarExpr" = some 76 := by decide +kernel

theorem clause_nil {n : String} {b : Bool} (h : clause n b = []) : b = true := by
  cases b <;> simp [clause] at h ⊢

/-- a verdict `[]`: the bytes decode (as msgspec would) and the four Python-level clauses hold -/
theorem C20_checker_sound (s : List Char) (bytes : List UInt8) (h : Spec.C20 s bytes = []) :
    ∃ r, pyDecode bytes = some r ∧ c20Tiling s r.tokens = true ∧ c20LinesColumns s r = true
      ∧ c20Enums r = true ∧ c20Payloads r = true := by
  unfold Spec.C20 at h
  split at h
  · simp at h
  · rename_i r hr
    simp only [List.append_eq_nil_iff] at h
    exact ⟨r, hr, clause_nil h.1.1.1, clause_nil h.1.1.2, clause_nil h.1.2, clause_nil h.2⟩

/-- … in particular the token slices tile the source after the optional BOM -/
theorem C20_tiling_slices (s : List Char) (toks : List PyToken) (h : c20Tiling s toks = true) :
    ((toks.map fun t => (t.start.toNat, t.stop.toNat)).map fun (a, b) => pySlice s a b).flatten
      = s.drop (bomChars s) := by
  simp only [c20Tiling, Bool.and_eq_true, beq_iff_eq] at h
  exact h.1.1.2

/-- non-vacuity: what the real extension returned for the empty source and for `a;` passes -/
example : Spec.C20 [] [0x93, 0x91, 0x9a, 0, 0, 0, 0, 0, 1, 0, 1, 0, 0xc0, 0x90, 0xc4, 0] = [] := by
  decide +kernel

end SasLexer
