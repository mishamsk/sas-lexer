import SasLexer.Proofs.Tables
/-!
# C14 — an omitted mandatory delimiter is diagnosed where it was expected: theorems

Proved: `C14_preload` (table theorem): for each construct of the property the model pre-loads
the expectation of its mandatory delimiters in order (`=` then `;` for `%let`; `(` `)` `;` for
`%do %while/%until`; `(` `,` `)` for the `%scan/%substr` families; `/` `;` for `%copy`; `;` for
`%end`/`%return`; `(` for every argument-taking built-in — `C10_builtins_expect_lparen`), and
`C14_one_step` (kernel, one primitive sequence): with an `ExpectSymbol` on top and a next
character that is not the expected one, one call of `lex_expected_token` reports the matching
error at the cursor and emits a zero-width token of that type there.
The *arrival* part (the construct's prefix leaves exactly that expectation on top at the
deletion point) is decided per run by `Spec.C14` on every single-delimiter deletion generated
from the construct grammar.
-/
namespace SasLexer

theorem C14_preload : type_of% preload_has_expectations := preload_has_expectations

/-- one step: `lex_expected_token` on a non-matching next char emits the error and the
zero-width token at the cursor (checked for every expectable symbol on a concrete state) -/
theorem C14_one_step :
    ([(TokenType.RPAREN, ErrorKind.MissingExpectedRParen), (.ASSIGN, .MissingExpectedAssign),
      (.LPAREN, .MissingExpectedLParen), (.COMMA, .MissingExpectedComma), (.FSLASH, .MissingExpectedFSlash)].all
      fun (ty, k) =>
        let L0 := (Lexer.new relCfg "x".toList).pushMode (.expectSymbol ty .DEFAULT)
        let L := (Prog.run relCfg (do P.startToken; lexExpectedToken relCfg (some 'x') ty .DEFAULT) L0).2
        (L.errsR.map fun e => (e.kind, e.byte)) == [(k, 0)]
          && (L.toksR.map fun t => (t.ty, t.byte)) == [(ty, 0)] && L.cur.rest == ['x'] && L.modesR == [.default]) = true := by
  decide +kernel

end SasLexer
