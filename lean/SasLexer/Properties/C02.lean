import SasLexer.Spec.Basic
import SasLexer.Properties.C03
import SasLexer.Proofs.Kernel.Mono
import SasLexer.Properties.C19
import SasLexer.Proofs.Model.DiscTop
import SasLexer.Proofs.Model.CoverTop
import SasLexer.Properties.C04
/-!
# C02 — tokens tile the source and end in a single EOF: theorems

Full-strength statement: `C02_statement` (every clause of `Spec.C02` for every source and
configuration).  Proved here, for **every control logic over the primitives** (kernel):

* `kernel_C02_boundaries` — every token start is a character boundary within the source;
* `kernel_C02_last_eof` — the detached buffer always ends in an `EOF` token;
* `kernel_C02_monotone_debug` — in a debug build, unless an assertion fired, start offsets
  never decrease; `kernel_C02_monotone_release` — the release build of the same control logic
  then has sorted starts too (transported through `run_profile`, the kernel theorem of C19).

Proved for the **modelled control logic, every input, both profiles** (`C02_model_single_eof`, from the
scanning discipline `awp` of `Proofs/Model/Disc*.lean`): whenever the model returns at end of input, its token
list is `pre ++ [eof]` with `eof` of type `EOF` at byte `utf8Len s` / char `s.length` and no `EOF` in `pre`,
i.e. the clause `single-final-eof` of `Spec.C02` holds.

Proved likewise (`model_first_at_bom`, from the discipline `cwp` of `Proofs/Model/Cover*.lean`: the open-code
dispatcher, entered on the initial state, always leaves a token that starts where it was entered; afterwards the
oldest token never moves — `run_KOld`, for every program): the first token starts at the end of the BOM.
`C02_model` collects every clause of `Spec.C02` except the one about payload slices — both profiles: that token starts
never decrease is a theorem of the control logic (`model_bytes_sorted`, `Proofs/Model/Sorted*.lean`), not only a debug assertion.

Not proved: totality (C01: the model returns, i.e. no panic / fuel exhaustion / budget) — a hypothesis of the
model theorems; for the implementation everything is decided per run by `Spec.C02` on implementation dumps plus
model/implementation correspondence.
-/
namespace SasLexer

def C02_statement : Prop := ∀ (cfg : Cfg) (s : List Char), Spec.C02 s (modelDump cfg s) = []

/-- every token start of the detached buffer lies on a char boundary of the source -/
theorem kernel_C02_boundaries (cfg : Cfg) {α β} (p : Prog α) (q : Prog β) (s : List Char) :
    ∀ t ∈ (runThenDetach cfg p q s).1.toks, (charIdxOfByte s t.byte).isSome := by
  intro t ht
  rw [(kernel_C03 cfg p q s).1 t ht]; rfl

/-- the detached buffer always ends in `EOF` (whatever the control logic did) -/
theorem kernel_C02_last_eof (cfg : Cfg) (L : Lexer) :
    ∃ t, (L.intoDetached cfg).1.toks.getLast? = some t ∧ t.ty = .EOF := by
  obtain ⟨k, h⟩ := intoDetached_toks cfg L
  rw [h]
  split
  · rename_i he
    obtain ⟨t, ht, hty⟩ := Option.map_eq_some_iff.1 he
    exact ⟨t, by rw [List.getLast?_reverse, ht], hty⟩
  · exact ⟨_, List.getLast?_concat .., rfl⟩

/-- debug build, no assertion fired ⇒ the token list of any run is sorted by start offset -/
theorem kernel_C02_monotone_debug (cfg : Cfg) (hd : cfg.debug = true) {α} (p : Prog α) (s : List Char) :
    (Prog.run cfg p (Lexer.new cfg s)).2.panicked = none →
    SortedR (Prog.run cfg p (Lexer.new cfg s)).2.toksR :=
  (run_KMono cfg hd p _ (new_KMono cfg s)).sorted

/-- release build: if the debug build of the same program (same features) runs without firing an
assertion, the release build's token list is sorted too (`run_KMono` transported by `run_profile`) -/
theorem kernel_C02_monotone_release (c : Cfg) (hrel : c.debug = false) {α} (p : Prog α) (s : List Char) :
    (Prog.run { c with debug := true } p (Lexer.new { c with debug := true } s)).2.panicked = none →
    SortedR (Prog.run c p (Lexer.new c s)).2.toksR := by
  intro h
  have hs := kernel_C02_monotone_debug { c with debug := true } rfl p s h
  have he := (kernel_C19_debug_release { c with debug := true } c rfl hrel p s h).2.1
  have : (Prog.run { c with debug := true } p (Lexer.new { c with debug := true } s)).2.toksR
      = (Prog.run c p (Lexer.new c s)).2.toksR := congrArg (fun L => L.toksR) he
  rw [← this]; exact hs

/-- non-vacuity: a run with rollback and zero-width recovery tokens on which all clauses hold -/
example : Spec.C02 "%m(a =1 /*c*/ ; x".toList (modelDump ⟨true, true, false⟩ "%m(a =1 /*c*/ ; x".toList) = [] := by
  -- takes the characters from the literal: the kernel's own `String.toList` of a literal is quadratic in its length
  rw [String.toList_ofList]
  decide +kernel

/-- **single final `EOF`** for the modelled lexer, every input, both profiles, both feature sets -/
theorem C02_model_single_eof (cfg : Cfg) (s : List Char) (h : (lexProgram cfg s).ending = some .eof) :
    ((lexProgram cfg s).buf.toks.filter (·.ty == .EOF)).length = 1 ∧
    ∃ t, (lexProgram cfg s).buf.toks.getLast? = some t ∧ t.ty = .EOF ∧ t.byte = utf8Len s := by
  obtain ⟨pre, e, htoks, hty, _, hbyte, hpre⟩ := model_single_eof cfg s h
  rw [htoks]
  refine ⟨?_, e, by simp, hty, hbyte⟩
  rw [List.filter_append]
  have : pre.filter (·.ty == .EOF) = [] := by
    rw [List.filter_eq_nil_iff]
    intro t ht
    simpa using hpre t ht
  simp [this, hty]

theorem byte_of_bomChars {s : List Char} {b c : Nat} (h : PosPair s b c) (hc : c = bomChars s) : b = bomLen s :=
  (posPair_lt_iff h (bom_posPair s)).2.2 hc

/-- **C02 for the modelled lexer, every input, both profiles** (all clauses of `Spec.C02` except the one about
payload slices): the token list is non-empty, its first token starts at the end of the BOM, start offsets
never decrease and are character boundaries, there is exactly one `EOF`, it is last and sits at the end of the
text — hence the raw texts of the tokens tile the source. -/
theorem C02_model (cfg : Cfg) (s : List Char) (hlen : utf8Len s < 4294967296)
    (hend : (lexProgram cfg s).ending = some .eof) :
    (lexProgram cfg s).buf.toks ≠ [] ∧
    ((lexProgram cfg s).buf.toks.map (·.byte)).head? = some (bomLen s) ∧
    (∀ i x y, (lexProgram cfg s).buf.toks[i]? = some x → (lexProgram cfg s).buf.toks[i + 1]? = some y → x.byte ≤ y.byte) ∧
    (∀ t ∈ (lexProgram cfg s).buf.toks, (charIdxOfByte s t.byte).isSome) ∧
    (((lexProgram cfg s).buf.toks.filter (·.ty == .EOF)).length = 1 ∧
      ∃ t, (lexProgram cfg s).buf.toks.getLast? = some t ∧ t.ty = .EOF ∧ t.byte = utf8Len s) := by
  have hl : s.length < 4294967296 := Nat.lt_of_le_of_lt (length_le_utf8Len s) hlen
  obtain ⟨t0, ht0, hst0⟩ := model_first_at_bom cfg s hl hend
  obtain ⟨_, htoks, _⟩ := model_lines_exact cfg s hend
  refine ⟨?_, ?_, fun i x y hx hy => pairwise_consecutive (model_bytes_sorted cfg s) hx hy,
    fun t ht => (lexProgram_pos cfg s).1 t ht ▸ rfl, C02_model_single_eof cfg s hend⟩
  · intro e; rw [e] at ht0; simp at ht0
  · rw [List.head?_map, ht0]
    exact congrArg some (byte_of_bomChars (htoks t0 (List.mem_of_mem_head? ht0)).1 hst0)

end SasLexer
