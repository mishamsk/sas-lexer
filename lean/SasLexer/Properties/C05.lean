import SasLexer.Spec.Basic
import SasLexer.Lex.Main
import SasLexer.Proofs.Pure.Resolved
import SasLexer.Properties.C04
/-!
# C05 — the bulk resolved view equals the per-token accessors: theorems

* `C05_pure` (proved, all buffers): for **every** well-formed detached buffer (`DBuf.WF`:
  start offsets never decrease, every token's line exists and begins at or before the token,
  line starts sorted, fewer than 2^32 lines) `into_resolved_token_vec` succeeds, has exactly one
  row per token, and row `k` is what the accessor methods return for token `k`.  The model keeps
  the two end-line formulas of `buffer.rs` as written, with `u32` arithmetic in both overflow
  regimes, so this is a statement about the code's arithmetic.
* `C05_wf_needed` (proved): the hypothesis is necessary — a concrete ill-formed buffer on which
  the two views differ.
* `C05_model` (proved, every input): the buffers of the **modelled lexer** are well-formed — the line-table
  part is the model theorem `model_lineWF` (scanning discipline, `Proofs/Model/Disc*.lean`), monotonicity the
  model theorem `model_tokMono` (discipline `swp`) — so for every source with fewer than 2^32 lines on which the model returns
  at end of input the bulk view has one row per token and row `k` is what the accessors return for token `k`, in both profiles.
* Full statement `C05_statement`: `Spec.C05` on the dump of every source.  For the implementation the link is
  decided per run (`Spec.C05` + `Spec.C04` on implementation dumps; model/implementation correspondence on both
  views; `buffer-script` correspondence of the accessor code on arbitrary buffers).
-/
namespace SasLexer

def C05_statement : Prop := ∀ (cfg : Cfg) (s : List Char), Spec.C05 s (modelDump cfg s) = []

theorem C05_pure (cfg : Cfg) (b : DBuf) (h : b.WF) (hne : b.toks ≠ []) :
    ∃ rows, b.resolved cfg = .ok rows ∧ rows.length = b.toks.length ∧
      ∀ k r, rows[k]? = some r → b.accessorRow cfg k = .ok r :=
  DBuf.resolved_eq_accessors cfg b h hne

/-- an ill-formed buffer (second token starts before its line start) on which the end line of
the first token differs between the two views: accessor says 1, bulk view says 2 -/
theorem C05_wf_needed :
    let b : DBuf := { lines := [⟨0, 0⟩, ⟨5, 5⟩],
                      toks := [⟨.DEFAULT, .WS, 0, 0, 0, .none⟩, ⟨.DEFAULT, .EOF, 3, 3, 1, .none⟩], lits := [] }
    (b.accessorRow ⟨false, false, false⟩ 0).toOption.map (·.endLine) = some 1 ∧
    ((b.resolved ⟨false, false, false⟩).toOption.bind (·.head?)).map (·.endLine) = some 2 := by
  decide

/-- both views agree on a buffer of the model whose token starts never decrease -/
theorem C05_model_of_mono (cfg : Cfg) (s : List Char) (hend : (lexProgram cfg s).ending = some .eof)
    (hmono : TokMono (lexProgram cfg s).buf) (hsmall : (lineStarts s).length < two32) :
    ∃ rows, (lexProgram cfg s).buf.resolved cfg = .ok rows ∧ rows.length = (lexProgram cfg s).buf.toks.length ∧
      ∀ k r, rows[k]? = some r → (lexProgram cfg s).buf.accessorRow cfg k = .ok r := by
  obtain ⟨pre, e, htoks, _⟩ := model_single_eof cfg s hend
  exact C05_pure cfg _ (model_lineWF cfg s hend hmono hsmall).wf (by rw [htoks]; simp)

/-- **C05 for the modelled lexer**: both views agree on the buffer of every run that returns at end of input (fewer than 2^32 lines) -/
theorem C05_model (cfg : Cfg) (s : List Char) (hend : (lexProgram cfg s).ending = some .eof)
    (hsmall : (lineStarts s).length < two32) :
    ∃ rows, (lexProgram cfg s).buf.resolved cfg = .ok rows ∧ rows.length = (lexProgram cfg s).buf.toks.length ∧
      ∀ k r, rows[k]? = some r → (lexProgram cfg s).buf.accessorRow cfg k = .ok r :=
  C05_model_of_mono cfg s hend (model_tokMono cfg s hend) hsmall

/-- non-vacuity: the buffer of a multi-line input with an empty token at a line start -/
example : Spec.C05 "a;\n%let x 1;\n".toList (modelDump ⟨true, false, false⟩ "a;\n%let x 1;\n".toList) = [] := by
  decide +kernel

end SasLexer
