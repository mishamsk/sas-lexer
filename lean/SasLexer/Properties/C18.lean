import SasLexer.Proofs.Tables
import SasLexer.Properties.C06
/-!
# C18 — `macro_sep` only adds separator tokens: theorems

Full-strength statement: `C18_statement` (for every source, the dump with the feature, after
removing `MacroSep` tokens and renumbering, equals the dump without it, and every separator is
placed by the rule).  Proved: `C18_placement` (for all token types, read off the definition): the separator
decision of the model coincides with the specification's placement rule.  The relational part
(the two runs perform the same operations) is decided per run by `Spec.C18` on the pair of
implementation dumps of the two feature builds and tied by model/implementation correspondence
in both feature configurations.

Proved for the model, every input (corollaries of the channel discipline `ChanR`, `Properties/C06.lean`):
`C18_no_sep_without_feature` — a build without the feature emits no `MacroSep` at all; `C18_sep_shape` — with the
feature, every `MacroSep` is on the default channel and carries no payload.
-/
namespace SasLexer

def C18_statement : Prop :=
  ∀ (s : List Char) (dbg : Bool), Spec.C18 s (modelDump ⟨dbg, false, false⟩ s) (modelDump ⟨dbg, true, false⟩ s) = []

theorem C18_placement :
    (∀ ty, needsMacroSep none ty = false) ∧
    (∀ ty p, p ∈ [TokenType.SEMI, .MacroLabel, .KwmThen, .KwmElse] → needsMacroSep (some p) ty = false) ∧
    (∀ ty, needsMacroSep (some .Identifier) ty = Spec.sepFollowSet.contains ty) :=
  ⟨needsMacroSep_none, fun ty _ hp => needsMacroSep_after_stop hp ty, needsMacroSep_identifier⟩

/-- non-vacuity: an input with two separators (before `%let` and before a label) -/
example : Spec.C18 "a %let x=1; b %lbl: c".toList
    (modelDump ⟨false, false, false⟩ "a %let x=1; b %lbl: c".toList)
    (modelDump ⟨false, true, false⟩ "a %let x=1; b %lbl: c".toList) = []
  ∧ ((modelDump ⟨false, true, false⟩ "a %let x=1; b %lbl: c".toList).toks.filter (·.ty == .MacroSep)).length = 2 := by
  -- takes the characters from the literal: the kernel's own `String.toList` of a literal is quadratic in its length
  rw [String.toList_ofList]
  decide +kernel


theorem C18_no_sep_without_feature (s : List Char) (dbg : Bool) :
    ∀ t ∈ (modelDump ⟨dbg, false, false⟩ s).toks, t.ty ≠ .MacroSep :=
  model_no_sep_without_feature ⟨dbg, false, false⟩ s rfl

theorem C18_sep_shape (cfg : Cfg) (s : List Char) :
    ∀ t ∈ (modelDump cfg s).toks, t.ty = .MacroSep → t.chan = .DEFAULT ∧ t.payload = .none := by
  intro t ht hty
  obtain ⟨hc, hp, -⟩ := model_tokInfoOK ht
  rw [hty] at hc hp
  constructor
  · cases hch : t.chan <;> simp [hch, chanOK, isCommentTy] at hc ⊢
  · cases hpl : t.payload <;> simp [hpl, payKindOK, isStrTy, isIntTy, isFloatTy] at hp ⊢

end SasLexer
