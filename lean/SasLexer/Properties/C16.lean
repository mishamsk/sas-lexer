import SasLexer.Proofs.Tables
/-!
# C16 — tokenization does not depend on ASCII letter case: theorems

Full-strength statement: `C16_statement`.  Proved (table theorems): `C16_tables` —
keyword and macro-keyword maps have upper-case ASCII keys and are queried after ASCII
upper-casing, so keyword recognition is case-insensitive (`upperStr_case_invariant`); the ASCII
character classes and hex digit values the control logic branches on are closed under case
change (all 128 code points); the mnemonic recogniser answers identically on all 2^n case
variants of every mnemonic.  The relational theorem over the whole control logic (two-case
match arms of the hand-modelled scanners behave like one-case arms) is not proved; it is
decided per run by `Spec.C16` on (source, case-mangled source) implementation dump pairs,
including all 2^n case variants of every keyword, and tied by correspondence.
-/
namespace SasLexer

def C16_statement : Prop :=
  ∀ (cfg : Cfg) (s s' : List Char), s.map toUpperAscii = s'.map toUpperAscii →
    Spec.C16 s s' (modelDump cfg s) (modelDump cfg s') = []

theorem C16_tables : type_of% keywords_upper ∧ type_of% ascii_classes_case_closed ∧ type_of% mnemonics_case_closed :=
  ⟨keywords_upper, ascii_classes_case_closed, mnemonics_case_closed⟩

/-- keyword lookup is case-insensitive -/
theorem C16_keyword_lookup (tbl : List (String × TokenType)) (a b : List Char)
    (h : a.map toUpperAscii = b.map toUpperAscii) : lookupKw tbl (upperStr a) = lookupKw tbl (upperStr b) := by
  rw [upperStr_case_invariant a b h]

example : Spec.C16 "Data A; x='4a'X; %LeT b=%EvAl(1 Ne 0ffX);".toList "dATA a; X='4A'x; %lEt B=%eVaL(1 nE 0FFx);".toList
    (modelDump ⟨true, true, false⟩ "Data A; x='4a'X; %LeT b=%EvAl(1 Ne 0ffX);".toList)
    (modelDump ⟨true, true, false⟩ "dATA a; X='4A'x; %lEt B=%eVaL(1 nE 0FFx);".toList) = [] := by
  -- takes the characters from the literal: the kernel's own `String.toList` of a literal is quadratic in its length
  rw [String.toList_ofList, String.toList_ofList]
  decide +kernel

end SasLexer
