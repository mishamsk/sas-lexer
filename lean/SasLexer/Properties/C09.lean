import SasLexer.Spec.Basic
import SasLexer.Proofs.Model.ErrOrdFns
import SasLexer.Proofs.Model.ErrAnch
import SasLexer.Properties.C04
import SasLexer.Properties.C03
import SasLexer.Proofs.Kernel.ErrAnchor
/-!
# C09 — every reported error is anchored in the final token stream: theorems

Full-strength statement: `C09_statement`.  Proved for **every control logic** (kernel):

* `kernel_C09_offsets` — every error offset is a position pair of the source (clause "offsets");
* `kernel_C09_last_token_exists` — the token an error names exists in the returned buffer
  (first half of clause "last-token").  This is the invariant that the repaired `rollback`
  (errors truncated together with tokens, `fix:` commit) makes true; on the pinned tree it was
  refuted by `%do %m(a)=1 %to 3;`.

Not proved (model level): the
one-to-one correspondence between `MissingExpected*` errors and zero-width recovery tokens.
It depends on the control logic (e.g. that no error is emitted between a speculative token and
its rollback other than through `lex_expected_token`, the delayed `OpenCodeRecursionError`), is
decided per run by `Spec.C09` on implementation dumps and tied by correspondence on the
(errors, token type/offset) projection.

Proved for the model, **every input, both profiles, every ending** (`C09_model_order`): the clause `order` — errors are
listed in non-decreasing source order.  Kernel invariant `KOrd` (`Proofs/Kernel/ErrOrder.lean`: sorted, at or before the
cursor, checkpoint prefix at or before the checkpoint's cursor) is preserved by every primitive except that `emitPrepared`
needs its side condition `PrepOk`; the discipline `ewp` (`Proofs/Model/ErrOrd*.lean`) shows that the control logic emits no
error between `prepError` and `emitPrepared` (the one site: an open-code statement inside a string expression; the
identifier lexer in between cannot emit one — keyword table theorem, mode stack known non-empty, pending-statement stack
never empty).

Likewise `C09_model_last_token`: the clause `last-token` in full — the named token exists **and starts at or before the
error** (`KAnch`, `Proofs/Model/ErrAnch.lean`: the oldest `i + 1` tokens keep their byte offsets under every primitive, and at
the moment an error is reported every token starts at or before the cursor — `SInv.le` of the sortedness discipline).
-/
namespace SasLexer

def C09_statement : Prop := ∀ (cfg : Cfg) (s : List Char), Spec.C09 s (modelDump cfg s) = []

theorem kernel_C09_offsets (cfg : Cfg) {α β} (p : Prog α) (q : Prog β) (s : List Char) :
    ∀ e ∈ (Prog.run cfg q (Prog.run cfg p (Lexer.new cfg s)).2).2.errsR,
      charIdxOfByte s e.byte = some e.char :=
  (kernel_C03 cfg p q s).2

theorem intoDetached_length (cfg : Cfg) (L : Lexer) : L.toksR.length ≤ (L.intoDetached cfg).1.toks.length := by
  obtain ⟨k, h⟩ := intoDetached_toks cfg L
  rw [h]
  split <;> simp

theorem kernel_C09_last_token_exists (cfg : Cfg) {α β} (p : Prog α) (q : Prog β) (s : List Char) :
    ∀ e ∈ (Prog.run cfg q (Prog.run cfg p (Lexer.new cfg s)).2).2.errsR,
      ∀ i, e.lastTok = some i → i < (runThenDetach cfg p q s).1.toks.length := by
  intro e he i hi
  have h := run_KErr cfg q _ (run_KErr cfg p _ (new_KErr cfg s))
  exact Nat.lt_of_lt_of_le (h.errs e he i hi) (intoDetached_length cfg _)

/-- the input that refuted the anchoring on the pinned tree now satisfies every clause -/
example : Spec.C09 "%do %m(a)=1 %to 3;".toList (modelDump ⟨false, false, false⟩ "%do %m(a)=1 %to 3;".toList) = [] := by
  -- takes the characters from the literal: the kernel's own `String.toList` of a literal is quadratic in its length
  rw [String.toList_ofList]
  decide +kernel

/-- non-vacuity: an input with a genuine missing-symbol error and its zero-width recovery token -/
example : (modelDump ⟨true, true, false⟩ "%let a 1;".toList).errs.length = 1 ∧
    Spec.C09 "%let a 1;".toList (modelDump ⟨true, true, false⟩ "%let a 1;".toList) = [] := by
  decide +kernel

theorem new_EInv (cfg : Cfg) (s : List Char) : EInv ⟨true, true⟩ (Lexer.new cfg s) :=
  ⟨new_KOrd cfg s, fun _ => PrepOk.of_none (by simp), by simp, by simp⟩

theorem monotone_of_sorted (l : List ErrInfo) (h : ErrSorted l) : Spec.monotone (l.reverse.map (·.byte)) = true := by
  rw [Spec.monotone_iff, List.pairwise_map, List.pairwise_reverse]
  exact h

theorem run_EInv (cfg : Cfg) {α} {p : Prog α} (hp : EOK p) {σ : ES} {L : Lexer} (hi : EInv σ L) :
    KOrd (Prog.run cfg p L).2 ∧ ((Prog.run cfg p L).1.isSome = true → ∃ σ', EInv σ' (Prog.run cfg p L).2) := by
  have h := ewp_sound cfg p (fun _ _ => True) σ L (hp.ewp fun _ _ => trivial) hi
  refine ⟨h.1, fun hr => ?_⟩
  obtain ⟨a, ha⟩ := Option.isSome_iff_exists.1 hr
  obtain ⟨σ', -, hi'⟩ := h.2 a ha
  exact ⟨σ', hi'⟩

theorem lastState_KOrd (cfg : Cfg) (s : List Char) : KOrd (lastState cfg s) := by
  have h1 : KOrd (mainRun cfg s).2 ∧ _ := run_EInv cfg (mainLoop_eok ..) (new_EInv cfg s)
  refine lastState_ind h1.1 fun hs => ?_
  obtain ⟨σ1, hi1⟩ := h1.2 hs
  exact (run_EInv cfg finalizeLexing_eok hi1).1

/-- every run of the model leaves the error list sorted — whether or not it returns -/
theorem lexProgram_KOrd (cfg : Cfg) (s : List Char) : ErrSorted (lexProgram cfg s).final.errsR := by
  rw [lexProgram_final_errs]
  exact (lastState_KOrd cfg s).sorted

/-- **C09, clause `order`, for the model: every input, both profiles, every ending** -/
theorem C09_model_order (cfg : Cfg) (s : List Char) :
    Spec.monotone ((modelDump cfg s).errs.map (·.byte)) = true := by
  rcases modelDump_cases cfg s with ⟨o, h⟩ | ⟨e, -, h⟩ <;> rw [h]
  · rfl
  · exact monotone_of_sorted _ (lexProgram_KOrd cfg s)

/-- tokens of the detached buffer with an index below the work buffer's length are the work buffer's -/
theorem intoDetached_getElem? (cfg : Cfg) (L : Lexer) (i : Nat) (hi : i < L.toksR.length) :
    (L.intoDetached cfg).1.toks[i]? = L.toksR.reverse[i]? := by
  obtain ⟨k, h⟩ := intoDetached_toks cfg L
  rw [h]
  split
  · rfl
  · exact List.getElem?_append_left (by simpa using hi)

theorem run_KAnch (cfg : Cfg) {α} {p : Prog α} (hp : SAny p) {σ : SS} {L : Lexer} (hi : SInv σ L) (hk : KErr L)
    (ha : KAnch L) : KAnch (Prog.run cfg p L).2 :=
  (run_anch cfg p (fun _ _ => True) σ L (hp.swp fun _ _ => trivial) hi hk ha).1

theorem lastState_KAnch (cfg : Cfg) (s : List Char) (hm : (mainRun cfg s).1.isSome = true) :
    KAnch (lastState cfg s) ∧ KErr (lastState cfg s) := by
  have hk1 : KErr (mainRun cfg s).2 := run_KErr cfg _ _ (new_KErr cfg s)
  have ha1 : KAnch (mainRun cfg s).2 :=
    run_KAnch cfg (mainLoop_sany ..) (new_SInv cfg s) (new_KErr cfg s) (new_KAnch cfg s)
  refine lastState_ind (I := fun L => KAnch L ∧ KErr L) ⟨ha1, hk1⟩ fun _ => ?_
  obtain ⟨σ1, hi1⟩ := run_SInv cfg (mainLoop_sany ..) (new_SInv cfg s) hm
  exact ⟨run_KAnch cfg finalizeLexing_sany hi1 hk1 ha1, run_KErr cfg _ _ hk1⟩

/-- **C09, clause `last-token`, for the model: every input, both profiles, every run that returns**: the token an error names
exists and starts at or before the error -/
theorem model_error_anchor (cfg : Cfg) (s : List Char) (hend : (lexProgram cfg s).ending ≠ none) :
    ∀ e ∈ (lexProgram cfg s).final.errsR, ∀ i, e.lastTok = some i →
      ∃ t, (lexProgram cfg s).buf.toks[i]? = some t ∧ t.byte ≤ e.byte := by
  rcases lexProgram_cases cfg s with ⟨h, -⟩ | ⟨-, hm, -, hb⟩
  · exact absurd h hend
  · obtain ⟨ha, hk⟩ := lastState_KAnch cfg s hm
    intro e he i hi
    rw [lexProgram_final_errs] at he
    have hlt := hk.errs e he i hi
    rw [hb, intoDetached_getElem? cfg _ i hlt]
    have ht := List.getElem?_eq_getElem (l := (lastState cfg s).toksR.reverse) (i := i) (by simpa using hlt)
    exact ⟨_, ht, ha.errs e he i hi _ (mem_truncR_of_reverse_getElem? _ _ _ ht)⟩

/-- clause `last-token` of `Spec.C09` on the model's dump -/
theorem C09_model_last_token (cfg : Cfg) (s : List Char) :
    ((modelDump cfg s).errs.all fun e =>
        match e.lastTok with
        | none => true
        | some i => match (modelDump cfg s).toks[i]? with | some t => t.byte ≤ e.byte | none => false) = true := by
  rw [List.all_eq_true]
  rcases modelDump_cases cfg s with ⟨o, h⟩ | ⟨en, hen, h⟩ <;> rw [h]
  · intro e he; cases he
  · intro e he
    cases hl : e.lastTok with
    | none => rfl
    | some i =>
      obtain ⟨t, ht, hb⟩ := model_error_anchor cfg s (by rw [hen]; simp) e (List.mem_reverse.1 he) i hl
      show (match (lexProgram cfg s).buf.toks[i]? with | some t => decide (t.byte ≤ e.byte) | none => false) = true
      rw [ht]
      exact decide_eq_true hb

/-- what the two theorems say on an input that exercises the prepared error (`%let` inside a string inside `%eval`), a
recovery token, two unterminated strings and a missing parenthesis: five errors, in source order, each naming a token
that starts at or before it -/
example : ((modelDump ⟨true, true, false⟩ "%eval(\"a%let b\" (".toList).errs.map fun e => (e.kind, e.byte, e.lastTok)) =
    [(.OpenCodeRecursionError, 8, some 3), (.MissingExpectedAssign, 14, some 6), (.UnterminatedStringLiteral, 17, some 8),
     (.UnterminatedStringLiteral, 17, some 10), (.MissingExpectedRParen, 17, some 10)] := by
  rw [String.toList_ofList]
  decide +kernel

end SasLexer
