import SasLexer.Spec.Basic
import SasLexer.Properties.C03
import SasLexer.Proofs.Pure.Lines
import SasLexer.Proofs.Model.DiscTop
import SasLexer.Proofs.Model.SortedFns
/-!
# C04 — lines and columns: theorems

Full-strength statement: `C04_statement`.  Proved (kernel, every control logic):
`kernel_C04_line_positions` — every recorded line start is a (byte, char) position pair of the
source, hence columns computed as `start − line.start` are code-point counts.
Proved (pure, every buffer, both arithmetic profiles): `DBuf.resolved_lines_exact` /
`C04_of_lineWF` — on a buffer whose line table is exact (`LineWF`: the table is `lineStarts s`,
every token is a position pair at or after the BOM whose line index is the number of line feeds
before it, starts never decrease, fewer than 2^32 lines) the resolved view / the accessors return
for **every** token exactly the line, column, end line and end column that the specification
computes from the text (the end-line formula `next.byte == line.byte && cur.byte < next.byte ⇒ −1`
is correct, no `u32` subtraction underflows).  So the token clauses of C04 are reduced to the line
discipline (`lineWFB`, a decidable monitor with `lineWFB_sound`).  Edge noted by the proof: with
2^32−1 line feeds `line + 1` would overflow `u32`; such an input needs > 100 GB of buffers.
Not a kernel fact (a program over the primitives may call `add_line` anywhere): that line
starts are recorded exactly after each line feed.  That is the *line discipline* of the scanners of
the control logic.  It is a **theorem about the modelled control logic, for every input**: the
discipline is the predicate `awp` on programs (`Proofs/Model/Disc.lean`), proved of every function of
the model (`DiscCommon`, `DiscMacroCall`, `DiscMacroEval`, `DiscMacroArgs`, `DiscOpen`, `DiscMain`), sound
for every run (`awp_sound` (`DiscSound.lean`)); `C04_model` below combines it with the pure theorem into the
full statement of C04 for the model (hypotheses: a source below 4 GiB with fewer than 2^32 lines, and the model returns at end of
input — totality is C01).
The implementation is tied to it by the check: `Spec.C04` (which recomputes the line table, every
line/column and every end position from the text) judges every implementation dump, and the
(offset, line, line table, error line/column, resolved view) projection is compared with the model.
-/
namespace SasLexer

def C04_statement : Prop := ∀ (cfg : Cfg) (s : List Char), Spec.C04 s (modelDump cfg s) = []

theorem kernel_C04_line_positions (cfg : Cfg) {α β} (p : Prog α) (q : Prog β) (s : List Char) :
    ∀ l ∈ (runThenDetach cfg p q s).1.lines, charIdxOfByte s l.byte = some l.start := by
  intro l hl
  obtain ⟨h2, hsrc⟩ := run_run_KPos cfg p q s
  exact charIdxOfByte_of_posPair (hsrc ▸ (intoDetached_pos cfg _ h2).2 l hl)

/-- non-vacuity / regression: the input that broke the line count on the pinned tree
(unterminated `datalines4` swallowing a line feed) now satisfies every clause, as do line feeds
inside strings, comments, macro arguments and across a rollback -/
example : Spec.C04 ";datalines4;\nx\n;\ny".toList (modelDump ⟨false, false, false⟩ ";datalines4;\nx\n;\ny".toList) = [] := by
  -- takes the characters from the literal: the kernel's own `String.toList` of a literal is quadratic in its length
  rw [String.toList_ofList]
  decide +kernel
example : Spec.C04 "﻿a='x\ny';/*\n*/%m\n\n (a\n=1)".toList
    (modelDump ⟨true, true, false⟩ "﻿a='x\ny';/*\n*/%m\n\n (a\n=1)".toList) = [] := by
  rw [String.toList_ofList]
  decide +kernel

/-- on a buffer with an exact line table (`LineWF`) every clause of `Spec.C04` about tokens holds of its dump; what is
left is the clause about *errors*, whose line and column the lexer computes when it reports them, not the buffer -/
theorem C04_dumpOfBuf (cfg : Cfg) (s : List Char) (b : DBuf) (errs : List ErrInfo) (o : Outcome)
    (snap : Option Snapshot) (iters : Nat) (h : LineWF s b) (hne : b.toks ≠ []) :
    Spec.C04 s (dumpOfBuf cfg s b errs o snap iters) =
      Spec.clause "error-line-col"
        (errs.all fun e => e.line == lineIdxOfChar s e.char + 1 && e.col == colOfChar s e.char) := by
  obtain ⟨rows, hres, _, hrows⟩ := DBuf.resolved_lines_exact cfg s b h hne
  have h1 : (b.lines == lineStarts s) = true := by rw [h.lines]; simp
  have h2 : (b.toks.all fun t => t.line == lineIdxOfChar s t.start) = true := by
    rw [List.all_eq_true]
    intro t ht
    simp [(h.toks t ht).line]
  unfold Spec.C04 dumpOfBuf
  simp only [hres, h1, h2, Spec.clause, if_true, List.nil_append]
  rw [if_pos, List.nil_append]
  rw [List.all_eq_true]
  intro x hx
  obtain ⟨r, hr, rfl⟩ := List.mem_map.1 hx
  obtain ⟨k, hk⟩ := List.getElem?_of_mem hr
  obtain ⟨e1, e2, e3⟩ := hrows k r hk
  unfold rowInts
  cases r.payload <;> simp [payloadInts, e1, e2, ← e3]

/-- on a buffer whose line table is exact only the clause `error-line-col` of `Spec.C04` can fail -/
theorem C04_of_lineWF (cfg : Cfg) (s : List Char) (b : DBuf) (errs : List ErrInfo) (o : Outcome)
    (snap : Option Snapshot) (iters : Nat) (h : LineWF s b) (hne : b.toks ≠ []) :
    ∀ c ∈ Spec.C04 s (dumpOfBuf cfg s b errs o snap iters), c = "error-line-col" := by
  rw [C04_dumpOfBuf cfg s b errs o snap iters h hne, Spec.clause]
  split <;> simp

theorem posPair_of_charIdxOfByte : ∀ (s : List Char) (b c : Nat), charIdxOfByte s b = some c → PosPair s b c
  | s, 0, c, h => by
    have : c = 0 := by cases s <;> simp [charIdxOfByte] at h <;> omega
    subst this; exact PosPair.zero s
  | [], b + 1, c, h => by simp [charIdxOfByte] at h
  | c0 :: cs, b + 1, c, h => by
    unfold charIdxOfByte at h
    split at h
    · rename_i hle
      simp only [Option.map_eq_some_iff] at h
      obtain ⟨c', hc', rfl⟩ := h
      obtain ⟨pre, suf, hs, hb, hc⟩ := posPair_of_charIdxOfByte cs _ c' hc'
      refine ⟨c0 :: pre, suf, by simp [hs], ?_, by simp [hc]⟩
      simp only [utf8Len]; omega
    · simp at h

/-- `Spec.monotone` compares neighbours; `≤` is transitive -/
theorem Spec.monotone_iff : ∀ l : List Nat, Spec.monotone l = true ↔ l.Pairwise (· ≤ ·)
  | [] | [_] => by simp [Spec.monotone]
  | a :: b :: r => by
    rw [Spec.monotone, Bool.and_eq_true, decide_eq_true_eq, Spec.monotone_iff (b :: r), List.pairwise_cons (a := a)]
    refine and_congr_left fun h => ⟨fun hab x hx => ?_, fun h' => h' b (List.mem_cons_self ..)⟩
    rcases List.mem_cons.1 hx with rfl | hx
    · exact hab
    · exact Nat.le_trans hab ((List.pairwise_cons.1 h).1 x hx)

theorem pairwise_consecutive {α} {R : α → α → Prop} {l : List α} (h : l.Pairwise R) {i : Nat} {x y : α}
    (hx : l[i]? = some x) (hy : l[i + 1]? = some y) : R x y := by
  obtain ⟨hi, rfl⟩ := List.getElem?_eq_some_iff.1 hx
  obtain ⟨hj, rfl⟩ := List.getElem?_eq_some_iff.1 hy
  exact List.pairwise_iff_getElem.1 h i (i + 1) hi hj (Nat.lt_succ_self i)

/-- executable form of `LineWF` (a run-time monitor on dumps, and the bridge for kernel-evaluated
instances) -/
def lineWFB (s : List Char) (b : DBuf) : Bool :=
  b.lines == lineStarts s && decide ((lineStarts s).length < two32) &&
  b.toks.all (fun t => Spec.posOk s t.byte t.start && decide (bomChars s ≤ t.start) && t.line == lineIdxOfChar s t.start) &&
  Spec.monotone (b.toks.map (·.start))

theorem lineWFB_sound {s : List Char} {b : DBuf} (h : lineWFB s b = true) : LineWF s b := by
  unfold lineWFB at h
  simp only [Bool.and_eq_true, decide_eq_true_eq, List.all_eq_true, beq_iff_eq] at h
  obtain ⟨⟨⟨h1, h2⟩, h3⟩, h4⟩ := h
  rw [Spec.monotone_iff, List.pairwise_map] at h4
  refine ⟨h1, h2, ?_, fun i x y => pairwise_consecutive h4⟩
  intro t ht
  obtain ⟨⟨hp, hb⟩, hl⟩ := h3 t ht
  refine ⟨posPair_of_charIdxOfByte s _ _ ?_, hb, hl⟩
  simpa [Spec.posOk] using hp

/-- non-vacuity: the buffer the model produces for a multi-line program with a BOM, a line feed
inside a string and inside a comment, a rollback and an empty recovery token satisfies `LineWF`,
so `C04_of_lineWF` applies to it -/
example : lineWFB "\uFEFFa='x\ny';/*\n*/%m\n\n (a\n=1);%let b 1;".toList
    (lexProgram ⟨true, true, false⟩ "\uFEFFa='x\ny';/*\n*/%m\n\n (a\n=1);%let b 1;".toList).buf = true := by
  rw [String.toList_ofList]
  decide +kernel

/-! ## model level: from `model_lines_exact`, `model_single_eof` (`DiscTop.lean`) and the pure theorem above to the full C04 -/

/-- token starts (char offsets) of a buffer never decrease -/
def TokMono (b : DBuf) : Prop := ∀ i x y, b.toks[i]? = some x → b.toks[i + 1]? = some y → x.start ≤ y.start

theorem new_SInv (cfg : Cfg) (s : List Char) : SInv ⟨false, .none, true⟩ (Lexer.new cfg s) :=
  { sorted := by simp [SortedR], le := by simp, tokLe := by simp [Lexer.curByte, Nat.sub_sub_self (bomLen_le s)],
    fresh := by simp, markN := by simp, markV := nofun, cp := by simp }

/-- byte starts of the detached buffer are sorted when those of the work buffer are and lie within the source -/
theorem intoDetached_sorted (cfg : Cfg) (L : Lexer) (hs : SortedR L.toksR) (hle : ∀ t ∈ L.toksR, t.byte ≤ L.srcLen) :
    (L.intoDetached cfg).1.toks.Pairwise (fun a b => a.byte ≤ b.byte) := by
  have hr : L.toksR.reverse.Pairwise (fun a b => a.byte ≤ b.byte) := List.pairwise_reverse.2 hs
  obtain ⟨k, h⟩ := intoDetached_toks cfg L
  rw [h]
  split
  · exact hr
  · exact List.pairwise_append.2 ⟨hr, List.pairwise_singleton .., fun a ha b hb => by
      rw [List.mem_singleton.1 hb]; exact hle a (List.mem_reverse.1 ha)⟩

theorem run_SInv (cfg : Cfg) {α} {p : Prog α} (hp : SAny p) {σ : SS} {L : Lexer} (hi : SInv σ L)
    (hr : (Prog.run cfg p L).1.isSome = true) : ∃ σ', SInv σ' (Prog.run cfg p L).2 := by
  obtain ⟨a, ha⟩ := Option.isSome_iff_exists.1 hr
  obtain ⟨σ', -, hi'⟩ := (swp_sound cfg p (fun _ _ => True) σ L (hp.swp fun _ _ => trivial) hi).2 a ha
  exact ⟨σ', hi'⟩

/-- the sortedness invariant holds of the state that is detached -/
theorem lastState_SInv (cfg : Cfg) (s : List Char) (hm : (mainRun cfg s).1.isSome = true)
    (hp : (lastState cfg s).panicked = none) : ∃ σ, SInv σ (lastState cfg s) := by
  obtain ⟨σ1, h1⟩ := run_SInv cfg (mainLoop_sany ..) (new_SInv cfg s) hm
  exact lastState_ind (I := fun L => L.panicked = none → ∃ σ, SInv σ L) (fun _ => ⟨σ1, h1⟩)
    (fun _ hp => run_SInv cfg finalizeLexing_sany h1 (run_isSome cfg _ _ hp)) hp

/-- **token starts never decrease in the modelled lexer — both profiles, every input, every ending** -/
theorem model_bytes_sorted (cfg : Cfg) (s : List Char) :
    (lexProgram cfg s).buf.toks.Pairwise (fun a b => a.byte ≤ b.byte) := by
  rcases lexProgram_cases cfg s with ⟨-, h⟩ | ⟨-, hm, hp, h⟩ <;> rw [h]
  · exact List.Pairwise.nil
  · obtain ⟨σ, hi⟩ := lastState_SInv cfg s hm hp
    exact intoDetached_sorted cfg _ hi.sorted fun t ht => Nat.le_trans (hi.le t ht) (by simp [Lexer.curByte])

/-- token starts (char offsets) never decrease — both profiles (from `model_bytes_sorted` and the position-pair theorem) -/
theorem model_tokMono (cfg : Cfg) (s : List Char) (hend : (lexProgram cfg s).ending = some .eof) :
    TokMono (lexProgram cfg s).buf := by
  obtain ⟨_, htoks, _⟩ := model_lines_exact cfg s hend
  intro i x y hx hy
  exact (posPair_le_iff (htoks x (List.mem_of_getElem? hx)).1 (htoks y (List.mem_of_getElem? hy)).1).1
    (pairwise_consecutive (model_bytes_sorted cfg s) hx hy)

/-- the debug profile from the kernel theorem alone: the assertion of `add_token` did not fire (`run_KMono`, in
`lexProgram_final`), with no appeal to the discipline `swp` -/
theorem model_tokMono_debug (cfg : Cfg) (hd : cfg.debug = true) (s : List Char)
    (hend : (lexProgram cfg s).ending = some .eof) : TokMono (lexProgram cfg s).buf := by
  obtain ⟨L2, hf, hb, -, hsorted⟩ := lexProgram_final cfg s hend
  obtain ⟨hd1, -⟩ := hf.detached cfg
  have hpp : ∀ t ∈ L2.toksR.reverse, PosPair s t.byte t.start := fun t ht => hf.src ▸ hf.kpos.toks t (List.mem_reverse.1 ht)
  intro i x y hx hy
  rw [hb, hd1] at hx hy
  exact (posPair_le_iff (hpp x (List.mem_of_getElem? hx)) (hpp y (List.mem_of_getElem? hy))).1
    (pairwise_consecutive (List.pairwise_reverse.2 (hsorted hd)) hx hy)

/-- the model's buffer satisfies the hypothesis of the pure theorem `C04_of_lineWF` (the line discipline is
`model_lines_exact`; start-offset monotonicity is `model_tokMono`) -/
theorem model_lineWF (cfg : Cfg) (s : List Char) (hend : (lexProgram cfg s).ending = some .eof)
    (hmono : TokMono (lexProgram cfg s).buf) (hsmall : (lineStarts s).length < two32) :
    LineWF s (lexProgram cfg s).buf := by
  obtain ⟨h1, h2, _⟩ := model_lines_exact cfg s hend
  exact ⟨h1, hsmall, fun t ht => ⟨(h2 t ht).1, (h2 t ht).2.1, (h2 t ht).2.2⟩, hmono⟩

/-- when the model returns at end of input with token starts that never decrease, *every* clause of `Spec.C04` holds of
its dump — line table, start line and column, end line and column of every token, line and column of every error -/
theorem C04_model_of_mono (cfg : Cfg) (s : List Char) (hlen : utf8Len s < two32)
    (hend : (lexProgram cfg s).ending = some .eof) (hmono : TokMono (lexProgram cfg s).buf)
    (hsmall : (lineStarts s).length < two32) :
    Spec.C04 s (modelDump cfg s) = [] := by
  obtain ⟨_, _, herr⟩ := model_lines_exact cfg s hend
  obtain ⟨pre, e, htoks, _⟩ := model_single_eof cfg s hend
  rw [modelDump_of_ending hlen hend,
    C04_dumpOfBuf _ _ _ _ _ _ _ (model_lineWF cfg s hend hmono hsmall) (by rw [htoks]; simp), Spec.clause, if_pos]
  rw [List.all_eq_true]
  intro e he
  simp [herr e (List.mem_reverse.1 he)]


/-- **C04 for the modelled lexer, every input, both profiles**: token-start monotonicity is a theorem of the control
logic (`model_tokMono`, discipline `swp` of `Proofs/Model/Sorted*.lean`), so no hypothesis on it is left -/
theorem C04_model (cfg : Cfg) (s : List Char) (hlen : utf8Len s < two32)
    (hend : (lexProgram cfg s).ending = some .eof) (hsmall : (lineStarts s).length < two32) :
    Spec.C04 s (modelDump cfg s) = [] :=
  C04_model_of_mono cfg s hlen hend (model_tokMono cfg s hend) hsmall

/-- non-vacuity of `C04_model` / `model_lines_exact`: a program with a BOM, line feeds inside a string, a comment
and a macro call argument, a rollback and a recovery token runs to end of input in the model -/
example : (lexProgram ⟨true, true, false⟩ "\uFEFFa='x\ny';/*\n*/%m\n\n (a\n=1);%let b 1;".toList).ending = some .eof := by
  rw [String.toList_ofList]
  decide +kernel
example : (lexProgram ⟨false, false, false⟩ "data a;\ndatalines;\n1 2\n;\n%macro m(a=1);\n* c;\n%mend;".toList).ending = some .eof := by
  rw [String.toList_ofList]
  decide +kernel

end SasLexer
