import SasLexer.Spec.C08
import SasLexer.Lex.Main
/-!
# C08 — numeric literal payloads equal the value written in the source: theorems

Full-strength statement: `C08_statement`.  Proved (pure, all inputs): `C08_decimal_integer` — for
every text, the model of `try_parse_integer` accepts exactly the maximal digit prefix when its
value fits `u64`, with that exact value (the specification's `decValue`); `C08_hex_integer` —
for `try_parse_hex_integer` with `hexValue`, the integer case only: a non-empty hex-digit prefix whose value fits `u64` is
accepted with that value.  The float value is, in model and
specification alike, `ratToF64` of the exact rational (correct rounding to nearest-even is
implemented with exact `Nat` arithmetic; the third-party `lexical` parser is **modelled by this
contract, not verified**, and compared on ≈ 10^5 boundary spellings per run).  Longest-match
disambiguation and the error spans are decided per run by `Spec.C08` on implementation dumps.
-/
namespace SasLexer

def C08_statement : Prop := ∀ (cfg : Cfg) (s : List Char), Spec.C08 s (modelDump cfg s) = []

/-- two folds whose steps agree on the elements of the list agree -/
theorem foldl_congr_mem {α β : Type} {f g : α → β → α} :
    ∀ (l : List β) (a : α), (∀ a, ∀ c ∈ l, f a c = g a c) → l.foldl f a = l.foldl g a
  | [], _, _ => rfl
  | c :: cs, a, h => by
    rw [List.foldl_cons, List.foldl_cons, h a c (by simp)]
    exact foldl_congr_mem cs _ fun a x hx => h a x (by simp [hx])

theorem digitsVal_dec_eq (ds : List Char) (a : Nat) :
    ds.foldl (fun a c => a * 10 + decVal c) a = ds.foldl (fun a c => 10 * a + (c.toNat - '0'.toNat)) a :=
  foldl_congr_mem ds a fun a c _ => by simp [decVal, Nat.mul_comm]

/-- `try_parse_integer` (model) = the specification's reading of `D+` -/
theorem C08_decimal_integer (s : List Char) :
    tryParseInteger s =
      (let ds := s.takeWhile isAsciiDigit
       if ds.isEmpty then none
       else if Spec.NumLit.decValue ds > u64Max then none
       else some ⟨.IntegerLiteral, .int (Spec.NumLit.decValue ds), ds.length, none⟩) := by
  unfold tryParseInteger Spec.NumLit.decValue digitsVal
  simp only [digitsVal_dec_eq]

theorem char_le_iff (a b : Char) : a ≤ b ↔ a.toNat ≤ b.toNat := Iff.rfl

theorem hexDigitVal_eq (c : Char) (h : isAsciiHexDigit c = true) : hexDigitVal c = Spec.NumLit.hexDigitValue c := by
  unfold hexDigitVal Spec.NumLit.hexDigitValue
  unfold isAsciiHexDigit at h
  by_cases h1 : isAsciiDigit c = true
  · simp [h1]
  · simp only [h1, Bool.false_eq_true, if_false, Bool.false_or] at h ⊢
    by_cases h2 : ('a' ≤ c && c ≤ 'f') = true
    · have h2' := h2
      simp only [Bool.and_eq_true, decide_eq_true_eq, char_le_iff] at h2'
      have : (97 : Nat) ≤ c.toNat := h2'.1
      simp only [h2, if_true]
      show c.toNat - 87 = c.toNat - 97 + 10
      omega
    · simp only [h2, Bool.false_eq_true, if_false, Bool.false_or] at h ⊢
      have h3' := h
      simp only [Bool.and_eq_true, decide_eq_true_eq, char_le_iff] at h3'
      have : (65 : Nat) ≤ c.toNat := h3'.1
      show c.toNat - 55 = c.toNat - 65 + 10
      omega

theorem digitsVal_hex_eq (ds : List Char) (hall : ∀ c ∈ ds, isAsciiHexDigit c = true) (a : Nat) :
    ds.foldl (fun a c => a * 16 + hexDigitVal c) a = ds.foldl (fun a c => 16 * a + Spec.NumLit.hexDigitValue c) a :=
  foldl_congr_mem ds a fun a c hc => by rw [hexDigitVal_eq c (hall c hc), Nat.mul_comm]

/-- `try_parse_hex_integer` (model), integer case = the specification's `hexValue` of the maximal
hex-digit prefix -/
theorem C08_hex_integer (s : List Char) (h : Spec.NumLit.hexValue (s.takeWhile isAsciiHexDigit) ≤ u64Max)
    (hne : (s.takeWhile isAsciiHexDigit).isEmpty = false) :
    tryParseHexInteger s =
      some ⟨.IntegerLiteral, .int (Spec.NumLit.hexValue (s.takeWhile isAsciiHexDigit)),
            (s.takeWhile isAsciiHexDigit).length, none⟩ := by
  unfold tryParseHexInteger
  unfold Spec.NumLit.hexValue at h ⊢
  have e := digitsVal_hex_eq (s.takeWhile isAsciiHexDigit) (List.all_eq_true.1 List.all_takeWhile) 0
  simp only [hne, Bool.false_eq_true, if_false, digitsVal, e, h, if_true]

/-- kernel-evaluated boundary values (tests): `u64::MAX`, `u64::MAX + 1`, a halfway case that must
round to even, the largest finite double and the first spelling that rounds to infinity -/
example : Spec.C08 "x=18446744073709551615 18446744073709551616 9007199254740993 1.7976931348623157e308 1.7976931348623159e308 0ffx;".toList
    (modelDump ⟨true, false, false⟩
      "x=18446744073709551615 18446744073709551616 9007199254740993 1.7976931348623157e308 1.7976931348623159e308 0ffx;".toList) = [] := by
  -- takes the characters from the literal: the kernel's own `String.toList` of a literal is quadratic in its length
  rw [String.toList_ofList]
  decide +kernel

end SasLexer
